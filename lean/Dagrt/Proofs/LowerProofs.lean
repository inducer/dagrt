import Dagrt.Model.Lower
import Dagrt.Proofs.VerifyProofs
import Dagrt.Proofs.SimplifyShape
/-!
The lowering `create_ast_from_phase` (C05).  Besides the proofs this file holds the specification
the property is stated with: `LWF` (well-formed phase), `nestRep` / `stmtTrace` / `orderTrace` (what
the lowered program has to execute).  The proofs: the model's insertion sort and look-up; the
topological sort takes the steps of the verifier's stack machine (`tstep_eq`, `trun_of_run`), so it
inherits that machine's total correctness (`trun_init`, `topoOrder_full`); the trace of the main
block.
-/
namespace Dagrt.Lower
open Dagrt.Verify (Topo Acyclic step run Within)

theorem insertSorted_perm (x : Nat) (l : List Nat) : (insertSorted x l).Perm (x :: l) := by
  induction l with
  | nil => simp [insertSorted]
  | cons y ys ih =>
    unfold insertSorted
    split
    · exact List.Perm.refl _
    · exact (ih.cons y).trans (List.Perm.swap x y ys)

theorem isort_perm (l : List Nat) : (isort l).Perm l := by
  induction l with
  | nil => simp [isort]
  | cons x xs ih =>
    simp only [isort]
    exact (insertSorted_perm x (isort xs)).trans (ih.cons x)

theorem mem_isort {z : Nat} {l : List Nat} : z ∈ isort l ↔ z ∈ l := (isort_perm l).mem_iff

theorem insertSorted_sorted {x : Nat} {l : List Nat} (h : l.Pairwise (· ≤ ·)) :
    (insertSorted x l).Pairwise (· ≤ ·) := by
  induction l with
  | nil => simp [insertSorted]
  | cons y ys ih =>
    have ⟨hy, hys⟩ := List.pairwise_cons.mp h
    unfold insertSorted
    split
    · rename_i hxy
      refine List.Pairwise.cons (fun z hz => ?_) h
      rcases List.mem_cons.mp hz with rfl | hz
      · exact hxy
      · exact Nat.le_trans hxy (hy z hz)
    · rename_i hxy
      refine List.Pairwise.cons (fun z hz => ?_) (ih hys)
      rcases List.mem_cons.mp ((insertSorted_perm x ys).mem_iff.mp hz) with rfl | hz
      · omega
      · exact hy z hz

theorem isort_sorted (l : List Nat) : (isort l).Pairwise (· ≤ ·) := by
  induction l with
  | nil => simp [isort]
  | cons x xs ih =>
    simp only [isort]
    exact insertSorted_sorted ih

theorem lookup_eq (p : Phase) (i : Nat) : lookup p i = p.findRev? (·.id == i) := by
  induction p with
  | nil => rfl
  | cons s r ih =>
    rw [lookup, List.findRev?, ih]
    cases r.findRev? (·.id == i) <;> simp

theorem lookup_mem {p : Phase} {i : Nat} {s : LStmt} (h : lookup p i = some s) : s ∈ p ∧ s.id = i :=
  List.findRev?_key_some (lookup_eq p i ▸ h)

theorem lookup_isSome_iff {p : Phase} {i : Nat} : (lookup p i).isSome = true ↔ ∃ t ∈ p, t.id = i := by
  rw [lookup_eq]
  exact List.findRev?_key_isSome

theorem lookup_of_nodup {p : Phase} (hnd : (ids p).Nodup) (s : LStmt) (hs : s ∈ p) :
    lookup p s.id = some s :=
  lookup_eq p s.id ▸ List.findRev?_key_of_nodup hnd hs

/-- unique ids, `Verify.DepsClosed` and `Verify.PhaseAcyclic`, over the statement records of the
    lowering -/
structure LWF (p : Phase) : Prop where
  nodup : (ids p).Nodup
  closed : ∀ s ∈ p, ∀ d ∈ s.deps, ∃ t ∈ p, t.id = d
  acyclic : ∃ rank : Nat → Nat, ∀ s ∈ p, ∀ d ∈ s.deps, rank d < rank s.id

/-- `Verify.known` for the lowering's look-up: the known-test of the verifier's machine run on `p` -/
def known (p : Phase) : Nat → Bool := fun i => (lookup p i).isSome

theorem sortedDeps_mem {p : Phase} {u d : Nat} (h : d ∈ sortedDeps p u) :
    ∃ s ∈ p, s.id = u ∧ d ∈ s.deps := by
  unfold sortedDeps at h
  split at h
  · rename_i s hs
    exact ⟨s, (lookup_mem hs).1, (lookup_mem hs).2, mem_isort.mp h⟩
  · simp at h

theorem mem_sortedDeps {p : Phase} (hnd : (ids p).Nodup) {s : LStmt} (hs : s ∈ p) {d : Nat} :
    d ∈ sortedDeps p s.id ↔ d ∈ s.deps := by
  simp [sortedDeps, lookup_of_nodup hnd s hs, mem_isort]

theorem lwf_acyclic {p : Phase} (wf : LWF p) : Acyclic (sortedDeps p) := by
  obtain ⟨rank, hr⟩ := wf.acyclic
  refine ⟨rank, fun u d hd => ?_⟩
  obtain ⟨s, hs, rfl, hd'⟩ := sortedDeps_mem hd
  exact hr s hs d hd'

theorem lwf_closed {p : Phase} (wf : LWF p) : ∀ u, ∀ d ∈ sortedDeps p u, known p d = true := by
  intro u d hd
  obtain ⟨s, hs, he, hd'⟩ := sortedDeps_mem hd
  exact lookup_isSome_iff.mpr (wf.closed s hs d hd')

/-- with only known ids on the stack, the lowering's machine takes the step of the verifier's
    machine whenever that one goes on or is done -/
theorem tstep_eq {p : Phase} {s : St} (hk : ∀ x ∈ s.stack, known p x = true) :
    (match step (sortedDeps p) (known p) s with
      | .done o => tstep p s = .done o
      | .running s' => tstep p s = .running s'
      | _ => True) := by
  generalize hr : step (sortedDeps p) (known p) s = r
  cases Dagrt.Verify.step_spec _ _ hr with
  | done => rfl
  | finish hvd hvg | pop hvd hvg => simp [tstep, hvd, hvg]
  | @push top _ _ _ _ hvd =>
    cases hl : lookup p top with
    | none => simp [known, hl] at hk
    | some st => simp [tstep, hvd, hl, sortedDeps]
  | cycle | keyError => trivial

theorem known_iff {p : Phase} {i : Nat} : known p i = true ↔ i ∈ ids p := by
  simp [known, ids, lookup_isSome_iff]

theorem sinks_subset {p : Phase} {i : Nat} (h : i ∈ sinks p) : i ∈ ids p :=
  List.mem_eraseDups.mp (List.mem_filter.mp (mem_isort.mp h)).1

theorem eraseDups_of_nodup : ∀ {l : List Nat}, l.Nodup → l.eraseDups = l := by
  intro l h
  induction l with
  | nil => simp
  | cons x xs ih =>
    have ⟨hx, hxs⟩ := List.nodup_cons.mp h
    rw [List.eraseDups_cons]
    have : xs.filter (fun b => !b == x) = xs :=
      List.filter_eq_self.mpr fun a ha => by simpa using fun (e : a = x) => hx (e ▸ ha)
    rw [this, ih hxs]

/-- a run of the verifier's machine that ends without complaint is a run of the lowering's -/
theorem trun_of_run {p : Phase} (hnd : (ids p).Nodup) {o : List Nat} (fuel : Nat) : ∀ s : St,
    Within (ids p) s → run (sortedDeps p) (known p) fuel s = .noCycle o → trun p fuel s = .ok o := by
  induction fuel with
  | zero => exact fun _ _ h => nomatch h
  | succ fuel ih =>
    intro s hw h
    have ht := tstep_eq fun x hx => known_iff.mpr (hw.1 x hx)
    unfold run at h
    unfold trun
    generalize hst : step (sortedDeps p) (known p) s = r at h ht
    cases r with
    | cycle | keyError => cases h
    | done o' =>
      cases h
      rw [ht]
    | running s' =>
      rw [ht]
      exact ih s' (Dagrt.Verify.step_mu _ _ hnd (fun n => known_iff.mp) hw hst).2 h

/-- The DFS of `create_ast_from_phase` on a well-formed phase, from any roots `init`: the
    verifier's machine succeeds on it (`run_init`: a well-formed phase has neither a cycle nor an
    unknown dependency), so the lowering's does, and its finish order is topological,
    duplicate-free, contains the roots and only statements. -/
theorem trun_init {p : Phase} (wf : LWF p) {init : List Nat} (hinit : ∀ x ∈ init, x ∈ ids p)
    {fuel : Nat} (hf : init.length + Dagrt.Verify.cost (sortedDeps p) (ids p) [] < fuel) :
    ∃ o, trun p fuel ⟨init.reverse, [], [], []⟩ = .ok o ∧ Topo (sortedDeps p) o ∧ o.Nodup ∧
      (∀ x ∈ init, x ∈ o) ∧ ∀ x ∈ o, x ∈ ids p := by
  have hr := Dagrt.Verify.run_init (sortedDeps p) (known p) wf.nodup (fun n => known_iff.mp) hinit hf
  generalize hrun : run _ _ _ _ = r at hr
  cases r with
  | noCycle o =>
    exact ⟨o, trun_of_run wf.nodup fuel _ ⟨fun x hx => hinit x (List.mem_reverse.mp hx), by simp⟩ hrun,
      hr⟩
  | cycle => exact (hr (lwf_acyclic wf)).elim
  | keyError =>
    obtain ⟨u, d, hd, hkd⟩ := hr
    rw [lwf_closed wf u d hd] at hkd
    cases hkd
  | outOfFuel => exact hr.elim

open Dagrt.Simplify

theorem mem_sinks {p : Phase} (hnd : (ids p).Nodup) {i : Nat} (hi : i ∈ ids p) (hd : i ∉ allDeps p) :
    i ∈ sinks p := by
  unfold sinks
  rw [mem_isort, eraseDups_of_nodup hnd]
  simp [hi, hd]

theorem rank_bound (rank : Nat → Nat) (l : List Nat) : ∃ B, ∀ i ∈ l, rank i < B :=
  ⟨(l.map rank).max?.getD 0 + 1, fun _ hi =>
    Nat.lt_succ_of_le (List.le_max?_getD_of_mem (List.mem_map_of_mem hi))⟩

/-- every statement lies below a root: walk up along dependents, the rank bounds the walk -/
theorem below_sink {p : Phase} (wf : LWF p) {o : List Nat} (hsinks : ∀ i ∈ sinks p, i ∈ o)
    (hclosed : ∀ s ∈ p, s.id ∈ o → ∀ d ∈ s.deps, d ∈ o) : ∀ i ∈ ids p, i ∈ o := by
  obtain ⟨rank, hr⟩ := wf.acyclic
  obtain ⟨B, hB⟩ := rank_bound rank (ids p)
  have key : ∀ k i, i ∈ ids p → B - rank i ≤ k → i ∈ o := by
    intro k
    induction k with
    | zero =>
      intro i hi hle
      have := hB i hi
      omega
    | succ k ih =>
      intro i hi hle
      by_cases hd : i ∈ allDeps p
      · obtain ⟨s, hs, hds⟩ := List.mem_flatMap.mp hd
        have hsid : s.id ∈ ids p := List.mem_map_of_mem hs
        have := hr s hs i hds
        have := hB s.id hsid
        exact hclosed s hs (ih s.id hsid (by omega)) i hds
      · exact hsinks i (mem_sinks wf.nodup hi hd)
  exact fun i hi => key B i hi (by omega)

theorem topoOrder_full {p : Phase} (wf : LWF p) :
    ∃ o, topoOrder p = .ok o ∧ Topo (sortedDeps p) o ∧ o.Nodup ∧
      (∀ i, i ∈ o ↔ i ∈ ids p) := by
  obtain ⟨o, hok, htopo, hnd, hsinks, hsub⟩ := trun_init wf (init := sinks p)
    (fun _ => sinks_subset) (fuel := topoFuel p) (by
      simp [topoFuel, eraseDups_of_nodup wf.nodup]
      omega)
  refine ⟨o, hok, htopo, hnd, fun i => ⟨hsub i, below_sink wf hsinks (fun s hs hso d hd => ?_) i⟩⟩
  obtain ⟨pre, post, rfl⟩ := List.append_of_mem hso
  simp [htopo pre s.id post rfl d ((mem_sortedDeps wf.nodup hs).mpr hd)]

/-- nested repetition: the trips of the declared loops, outermost first -/
def nestRep (it : Nat → Nat) : List Nat → List Nat → List Nat
  | [], t => t
  | l :: ls, t => (List.replicate (it l) (nestRep it ls t)).flatten

/-- the leaves one statement contributes: nothing for a no-op or a false guard; otherwise its id
    once per iteration vector of exactly its declared loops -/
def stmtTrace (v : Nat → Bool) (it : Nat → Nat) (s : LStmt) : List Nat :=
  bif s.isNop then []
  else match s.cond with
    | none => nestRep it s.loops [s.id]
    | some c => bif c.eval v then nestRep it s.loops [s.id] else []

theorem trace_wrapLoops (v : Nat → Bool) (it : Nat → Nat) (a : Ast) (ls : List Nat) :
    trace v it (wrapLoops ls a) = nestRep it ls (trace v it a) := by
  induction ls with
  | nil => rfl
  | cons l ls ih => simp [wrapLoops, trace, nestRep, ih]

theorem trace_wrap (v : Nat → Bool) (it : Nat → Nat) (s : LStmt) (h : s.isNop = false) :
    trace v it (wrap s) = stmtTrace v it s := by
  unfold wrap stmtTrace
  rw [h]
  simp only [cond_false]
  cases s.cond with
  | none => simp [trace_wrapLoops, trace]
  | some c => simp [trace, trace_wrapLoops]

def orderTrace (p : Phase) (v : Nat → Bool) (it : Nat → Nat) (o : List Nat) : List Nat :=
  o.flatMap fun i => match lookup p i with
    | some s => stmtTrace v it s
    | none => []

theorem mainBlock_trace (p : Phase) (v : Nat → Bool) (it : Nat → Nat) (o : List Nat) (blk : List Ast)
    (h : mainBlock p o = .ok blk) : traceList v it blk = orderTrace p v it o := by
  induction o generalizing blk with
  | nil =>
    cases h
    rfl
  | cons i is ih =>
    unfold mainBlock at h
    cases hl : lookup p i with
    | none => simp [hl] at h
    | some s =>
      cases hr : mainBlock p is with
      | error e => simp [hl, hr, bind, Except.bind] at h
      | ok r =>
        simp only [hl, hr, bind, Except.bind, Except.ok.injEq] at h
        subst h
        have ih := ih r hr
        cases hn : s.isNop
        · simp [traceList, ih, orderTrace, hl, trace_wrap v it s hn]
        · simpa [orderTrace, hl, stmtTrace, hn] using ih

theorem mainBlock_total (p : Phase) (o : List Nat) (h : ∀ i ∈ o, known p i = true) :
    ∃ blk, mainBlock p o = .ok blk := by
  induction o with
  | nil => exact ⟨[], rfl⟩
  | cons i is ih =>
    obtain ⟨r, hr⟩ := ih fun x hx => h x (by simp [hx])
    have := h i (by simp)
    unfold known at this
    cases hl : lookup p i with
    | none => simp [hl] at this
    | some s => simp [mainBlock, hl, hr, bind, Except.bind]

end Dagrt.Lower
