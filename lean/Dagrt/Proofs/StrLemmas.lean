/-! decimal rendering of naturals is injective: names that differ in their number (`h0`, `h1`, …) differ -/
namespace Dagrt.Str

theorem toDigits_inj {a b : Nat} (h : Nat.toDigits 10 a = Nat.toDigits 10 b) : a = b := by
  have ha := Nat.ofDigitChars_toDigits (b := 10) (n := a) (by decide) (by decide)
  have hb := Nat.ofDigitChars_toDigits (b := 10) (n := b) (by decide) (by decide)
  rw [h] at ha; omega

theorem toString_toList (k : Nat) : (toString k).toList = Nat.toDigits 10 k := by
  simp [toString, Nat.toList_repr]

end Dagrt.Str
