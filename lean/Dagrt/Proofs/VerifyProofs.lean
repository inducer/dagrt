import Dagrt.Proofs.Dfs
/-!
The verifier model below its aggregator.  A dictionary built from a list of records (the last
record with a key wins) is `List.findRev?`: its facts are stated once for any keyed list and serve
`Verify.lookup` here and `Lower.lookup` in `LowerProofs`.  Then the four clauses of well-formedness as
predicates on a phase, each with the Boolean pass that decides it, and the cycle pass on one phase
as an instance of `run_init` (`cycleCheck_spec`).
-/
namespace List
variable {α : Type} {key : α → Nat} {l : List α} {i : Nat}

theorem findRev?_key_some {s : α} (h : l.findRev? (key · == i) = some s) : s ∈ l ∧ key s = i := by
  rw [findRev?_eq_find?_reverse] at h
  exact ⟨mem_reverse.mp (mem_of_find?_eq_some h), eq_of_beq (find?_some (p := (key · == i)) h)⟩

theorem findRev?_key_isSome : (l.findRev? (key · == i)).isSome = true ↔ ∃ t ∈ l, key t = i := by
  rw [findRev?_eq_find?_reverse, find?_isSome]
  simp only [mem_reverse, beq_iff_eq]

theorem findRev?_key_of_nodup (hnd : (l.map key).Nodup) {s : α} (hs : s ∈ l) :
    l.findRev? (key · == key s) = some s := by
  induction l with
  | nil => cases hs
  | cons t r ih =>
    have ⟨ht, hnd'⟩ := nodup_cons.mp hnd
    rw [findRev?]
    cases hs with
    | head =>
      have hr : r.findRev? (key · == key s) = none := by
        rw [findRev?_eq_find?_reverse, find?_eq_none]
        intro u hu he
        exact ht (mem_map.mpr ⟨u, mem_reverse.mp hu, eq_of_beq he⟩)
      rw [hr, beq_self_eq_true]
      rfl
    | tail _ hs => rw [ih hnd' hs]

end List

namespace Dagrt.Verify

theorem lookup_eq (p : Phase) (i : Nat) : lookup p i = p.findRev? (·.id == i) := by
  induction p with
  | nil => rfl
  | cons s r ih =>
    rw [lookup, List.findRev?, ih]
    cases r.findRev? (·.id == i) <;> simp

theorem lookup_mem {p : Phase} {i : Nat} {s : VStmt} (h : lookup p i = some s) : s ∈ p ∧ s.id = i :=
  List.findRev?_key_some (lookup_eq p i ▸ h)

theorem known_iff {p : Phase} {i : Nat} : known p i = true ↔ ∃ t ∈ p, t.id = i := by
  rw [known, lookup_eq]
  exact List.findRev?_key_isSome

theorem lookup_of_nodup {p : Phase} (hnd : (ids p).Nodup) (s : VStmt) (hs : s ∈ p) :
    lookup p s.id = some s :=
  lookup_eq p s.id ▸ List.findRev?_key_of_nodup hnd hs

theorem nbrs_of_nodup {p : Phase} (hnd : (ids p).Nodup) {s : VStmt} (hs : s ∈ p) : nbrs p s.id = s.deps := by
  simp [nbrs, lookup_of_nodup hnd s hs]

theorem nbrs_mem {p : Phase} {u d : Nat} (h : d ∈ nbrs p u) : ∃ s ∈ p, s.id = u ∧ d ∈ s.deps := by
  unfold nbrs at h
  split at h
  · rename_i s hs
    exact ⟨s, (lookup_mem hs).1, (lookup_mem hs).2, h⟩
  · simp at h

def DepsClosed (p : Phase) : Prop := ∀ s ∈ p, ∀ d ∈ s.deps, ∃ t ∈ p, t.id = d
def PhaseAcyclic (p : Phase) : Prop := ∃ rank : Nat → Nat, ∀ s ∈ p, ∀ d ∈ s.deps, rank d < rank s.id
def SwitchOk (n : Nat) (p : Phase) : Prop := ∀ s ∈ p, ∀ t, s.switchTo = some t → t < n
def CondSingle (p : Phase) : Prop := ∀ s ∈ p, ∀ c ∈ s.condWrites, condWriters p c ≤ 1

theorem depsMissing_false {p : Phase} : depsMissing p = false ↔ DepsClosed p := by
  simp [depsMissing, DepsClosed]

theorem switchBad_false {n : Nat} {p : Phase} : switchBad n p = false ↔ SwitchOk n p := by
  simp only [switchBad, SwitchOk, List.any_eq_false]
  refine forall_congr' fun s => forall_congr' fun _ => ?_
  cases s.switchTo <;> simp

theorem condBad_false {p : Phase} : condBad p = false ↔ CondSingle p := by
  simp [condBad, CondSingle]

theorem acyclic_phase_iff {p : Phase} (hnd : (ids p).Nodup) : Acyclic (nbrs p) ↔ PhaseAcyclic p := by
  constructor
  · rintro ⟨rank, hr⟩
    exact ⟨rank, fun s hs d hd => hr s.id d (nbrs_of_nodup hnd hs ▸ hd)⟩
  · rintro ⟨rank, hr⟩
    refine ⟨rank, fun u d hd => ?_⟩
    obtain ⟨s, hs, rfl, hd'⟩ := nbrs_mem hd
    exact hr s hs d hd'

theorem cycleCheck_spec (p : Phase) (hnd : (ids p).Nodup) :
    match cycleCheck p with
    | .noCycle _ => PhaseAcyclic p
    | .cycle => ¬ PhaseAcyclic p
    | .keyError => ¬ DepsClosed p
    | .outOfFuel => False := by
  have hk : ∀ n, known p n = true → n ∈ ids p := fun n hn => by
    obtain ⟨t, ht, rfl⟩ := known_iff.mp hn
    exact List.mem_map_of_mem ht
  have h := run_init (nbrs p) (known p) hnd hk (fun x hx => hx) (fuel := cycleFuel p)
    (by simp [cycleFuel])
  unfold cycleCheck
  generalize run _ _ _ _ = r at h ⊢
  cases r with
  | noCycle o =>
    obtain ⟨ht, _, hall, _⟩ := h
    refine (acyclic_phase_iff hnd).mp (topo_acyclic (nbrs p) ht fun u hu => hall u ?_)
    obtain ⟨d, hd⟩ := List.exists_mem_of_ne_nil _ hu
    obtain ⟨s, hs, rfl, _⟩ := nbrs_mem hd
    exact List.mem_map_of_mem hs
  | cycle => exact fun hac => h ((acyclic_phase_iff hnd).mpr hac)
  | keyError =>
    obtain ⟨u, d, hd, hkd⟩ := h
    intro hc
    obtain ⟨s, hs, rfl, hd'⟩ := nbrs_mem hd
    rw [known_iff.mpr (hc s hs d hd')] at hkd
    cases hkd
  | outOfFuel => exact h

end Dagrt.Verify
