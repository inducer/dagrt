/-! generic scheduling lemma: a schedule of `0 … n-1` whose inversions commute computes what program order computes -/
namespace Dagrt.Sched
variable {S : Type} (sem : Nat → S → S)

def exec (l : List Nat) (σ : S) : S := l.foldl (fun s i => sem i s) σ
def Comm (i j : Nat) : Prop := ∀ σ, sem i (sem j σ) = sem j (sem i σ)

theorem exec_append (l₁ l₂ : List Nat) (σ : S) : exec sem (l₁ ++ l₂) σ = exec sem l₂ (exec sem l₁ σ) :=
  List.foldl_append

theorem exec_move_last (x : Nat) : ∀ (post : List Nat) (σ : S), (∀ y ∈ post, Comm sem x y) →
    exec sem (x :: post) σ = exec sem (post ++ [x]) σ := by
  intro post
  induction post with
  | nil => exact fun _ _ => rfl
  | cons y post ih =>
    intro σ h
    have ih := ih (sem y σ) (fun z hz => h z (List.mem_cons_of_mem _ hz))
    simp only [exec, List.foldl_cons, List.cons_append] at ih ⊢
    rw [← ih, h y List.mem_cons_self σ]

/-- The largest index commutes with everything scheduled after it, so it can be moved to the end;
    what is left is a schedule of `0 … n-1`. -/
theorem exec_eq_range : ∀ (n : Nat) (l : List Nat) (σ : S), l.Perm (List.range n) →
    l.Pairwise (fun a b => b < a → Comm sem a b) → exec sem l σ = exec sem (List.range n) σ := by
  intro n
  induction n with
  | zero =>
    intro l σ hp _
    rw [List.range_zero] at hp
    rw [hp.eq_nil, List.range_zero]
  | succ n ih =>
    intro l σ hp hc
    have hn : n ∈ l := hp.mem_iff.mpr (by simp)
    obtain ⟨pre, post, rfl⟩ := List.append_of_mem hn
    have hp' : (pre ++ post).Perm (List.range n) := by
      have : (n :: (pre ++ post)).Perm (n :: List.range n) :=
        (List.perm_middle.symm.trans hp).trans (by rw [List.range_succ]; exact List.perm_append_comm)
      exact List.Perm.cons_inv this
    have hpost : ∀ y ∈ post, Comm sem n y := fun y hy =>
      (List.pairwise_cons.mp (List.pairwise_append.mp hc).2.1).1 y hy
        (by simpa using hp'.mem_iff.mp (List.mem_append_right pre hy))
    have hc' : (pre ++ post).Pairwise (fun a b => b < a → Comm sem a b) :=
      hc.sublist (List.Sublist.append_left (List.sublist_cons_self _ _) _)
    rw [exec_append, exec_move_last sem n post _ hpost, ← exec_append, ← List.append_assoc, exec_append,
      ih _ σ hp' hc', List.range_succ, exec_append]

end Dagrt.Sched
