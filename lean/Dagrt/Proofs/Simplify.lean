import Dagrt.Model.Simplify
/-!
Trace preservation of the three passes of `simplify_ast`.  The nested list of `Ast.block` is
handled once: `Ast.induction` gives `∀ a ∈ cs, P a` in the block case, the list functions of the
model are core combinators (`preList_eq` …), and a fact about every member lifts to the list by one
lemma per kind of statement (`traceList_map_congr`, `simpList_ok_of_forall`).  Pass 2 never fails
(`simp_total`); its value `simpD` is then a pure function with one equation per node (`simpD_ite` …).
-/
namespace Dagrt.Simplify
variable (v : Nat → Bool) (it : Nat → Nat)

theorem Ast.induction {P : Ast → Prop}
    (leaf : ∀ n, P (.leaf n))
    (ifThen : ∀ c t, P t → P (.ifThen c t))
    (ite : ∀ c t e, P t → P e → P (.ite c t e))
    (loop : ∀ x b, P b → P (.loop x b))
    (block : ∀ cs, (∀ a ∈ cs, P a) → P (.block cs))
    (null : P .null) : ∀ a, P a :=
  @Ast.rec P (fun cs => ∀ a ∈ cs, P a) leaf ifThen ite loop block null
    (fun _ h => nomatch h)
    (fun _ _ hc hcs _ h => by
      cases h with
      | head => exact hc
      | tail _ h => exact hcs _ h)

theorem preList_eq (cs : List Ast) : preList cs = cs.map pre := by
  induction cs <;> simp [preList, *]
theorem postList_eq (cs : List Ast) : postList cs = cs.map post := by
  induction cs <;> simp [postList, *]
theorem noNullList_eq (cs : List Ast) : noNullList cs = cs.all noNull := by
  induction cs <;> simp [noNullList, *]
theorem noIfThenList_eq (cs : List Ast) : noIfThenList cs = cs.all noIfThen := by
  induction cs <;> simp [noIfThenList, *]

theorem traceList_map_congr {f : Ast → Ast} {cs : List Ast}
    (h : ∀ a ∈ cs, trace v it (f a) = trace v it a) :
    traceList v it (cs.map f) = traceList v it cs := by
  induction cs with
  | nil => rfl
  | cons a as ih => simp_all [traceList]

theorem simpList_ok_of_forall {cs : List Ast} (h : ∀ a ∈ cs, ∃ a', simp a = .ok a') :
    ∃ q, simpList cs = .ok q := by
  induction cs with
  | nil => simp [simpList]
  | cons a as ih =>
    obtain ⟨x, hx⟩ := h a (by simp)
    obtain ⟨y, hy⟩ := ih (fun b hb => h b (by simp [hb]))
    simp [simpList, hx, hy, bind, Except.bind, pure, Except.pure]

theorem trace_of_isNull {a : Ast} (h : isNull a = true) : trace v it a = [] := by
  cases a <;> simp_all [isNull, trace]

theorem traceList_filter_nonnull (l : List Ast) :
    traceList v it (l.filter (fun a => !isNull a)) = traceList v it l := by
  induction l with
  | nil => rfl
  | cons a as ih =>
    cases h : isNull a
    · simp [List.filter, h, traceList, ih]
    · simp [List.filter, h, traceList, ih, trace_of_isNull v it h]

theorem trace_pre (a : Ast) : trace v it (pre a) = trace v it a := by
  induction a using Ast.induction with
  | leaf | null => simp [pre]
  | ifThen _ _ ih | loop _ _ ih => simp [pre, trace, ih]
  | ite c t e iht ihe => simp [pre, trace, iht, ihe]
  | block cs ih => simp [pre, trace, preList_eq, traceList_map_congr v it ih]

theorem traceList_pre : ∀ cs : List Ast, traceList v it (preList cs) = traceList v it cs :=
  fun cs => preList_eq cs ▸ traceList_map_congr v it fun a _ => trace_pre v it a

theorem trace_post (a : Ast) : trace v it (post a) = trace v it a := by
  induction a using Ast.induction with
  | leaf | null => simp [post]
  | ifThen c t ih => simp [post, trace, ih]
  | loop x b ih =>
    simp only [post]
    cases h : isNull (post b)
    · simp [trace, ih]
    · simp [trace, ← ih, trace_of_isNull v it h]
  | ite c t e iht ihe =>
    simp only [post]
    cases h1 : isNull (post t) <;> cases h2 : isNull (post e) <;>
      simp only [trace, Cond.eval, ← iht, ← ihe, trace_of_isNull v it, h1, h2] <;>
      cases c.eval v <;> rfl
  | block cs ih =>
    have h : traceList v it ((postList cs).filter (fun a => !isNull a)) = traceList v it cs := by
      rw [traceList_filter_nonnull, postList_eq]
      exact traceList_map_congr v it ih
    simp only [post, trace, ← h]
    generalize (postList cs).filter (fun a => !isNull a) = l
    split <;> simp [trace, traceList]

theorem traceList_post : ∀ cs : List Ast, traceList v it (postList cs) = traceList v it cs :=
  fun cs => postList_eq cs ▸ traceList_map_congr v it fun a _ => trace_post v it a

theorem trace_postTop (a : Ast) : trace v it (postTop a) = trace v it a := by
  unfold postTop
  have h := trace_post v it a
  split
  · rename_i heq
    simpa [heq, trace, traceList] using h
  · exact h

theorem simp_total (a : Ast) : ∃ a', simp a = .ok a' := by
  induction a using Ast.induction with
  | leaf | null => simp [simp]
  | ifThen _ _ ih | loop _ _ ih =>
    obtain ⟨t', ht⟩ := ih
    simp [simp, ht, bind, Except.bind, pure, Except.pure]
  | ite c t e iht ihe =>
    obtain ⟨t', ht⟩ := iht
    obtain ⟨e', he⟩ := ihe
    simp only [simp, ht, he, bind, Except.bind, pure, Except.pure]
    split
    · exact ⟨_, rfl⟩
    · split <;> exact ⟨_, rfl⟩
  | block cs ih =>
    obtain ⟨q, hq⟩ := simpList_ok_of_forall ih
    simp only [simp, hq, bind, Except.bind, pure, Except.pure]
    split
    · exact ⟨_, rfl⟩
    · split
      · exact ⟨_, rfl⟩
      · split <;> exact ⟨_, rfl⟩

theorem simpList_total : ∀ cs : List Ast, ∃ q, simpList cs = .ok q :=
  fun _ => simpList_ok_of_forall fun a _ => simp_total a

theorem traceList_append (a b : List Ast) :
    traceList v it (a ++ b) = traceList v it a ++ traceList v it b := by
  induction a <;> simp [traceList, *]

theorem size_pos (a : Ast) : 0 < a.size := by
  cases a <;> simp [Ast.size] <;> omega

theorem sizeList_append (a b : List Ast) : sizeList (a ++ b) = sizeList a + sizeList b := by
  induction a <;> simp [sizeList, Nat.add_assoc, *]

def flatItems : Ast → List Ast
  | .null => []
  | .block cs => cs
  | x => [x]

theorem flatBlock_eq (ns : List Ast) : flatBlock ns = .block (ns.flatMap flatItems) := by
  unfold flatBlock
  congr 1
  induction ns with
  | nil => rfl
  | cons n ns ih => cases n <;> simp [flatItems, ih]

theorem traceList_flatItems (x : Ast) : traceList v it (flatItems x) = trace v it x := by
  cases x <;> simp [flatItems, trace, traceList]

theorem trace_flatBlock (ns : List Ast) : trace v it (flatBlock ns) = traceList v it ns := by
  rw [flatBlock_eq, trace]
  induction ns with
  | nil => rfl
  | cons n ns ih => simp [traceList_append, traceList_flatItems, traceList, ih]

theorem fuel_step {a : Ast} {q : List Ast} {f : Nat} (h : sizeList (a :: q) < f + 1) : sizeList q < f := by
  have := size_pos a
  simp only [sizeList] at h
  omega

theorem fuel_step_block {cs q : List Ast} {f : Nat} (h : sizeList (.block cs :: q) < f + 1) :
    sizeList (cs ++ q) < f := by
  simp only [sizeList, Ast.size] at h
  rw [sizeList_append]
  omega

theorem mergeLoop_trace (fuel : Nat) (cur : Ast) (q acc : List Ast) (h : sizeList q < fuel) :
    traceList v it (mergeLoop fuel cur q acc)
      = traceList v it acc ++ trace v it cur ++ traceList v it q := by
  -- the cases follow the equations of `mergeLoop`: fuel exhausted; queue empty; next is null; next
  -- is a block; two conditionals with the same condition (merged); and the three in which the
  -- current node is finished: conditionals that differ, a conditional after something else, the rest
  fun_induction mergeLoop fuel cur q acc with
  | case1 => omega
  | case2 => simp [traceList_append, traceList]
  | case3 f cur q acc ih => simp [ih (fuel_step h), traceList, trace]
  | case4 f cur q acc cs ih => simp [ih (fuel_step_block h), traceList, trace, traceList_append]
  | case5 f q acc t2 e2 c t1 e1 ih =>
    rw [ih (fuel_step h)]
    simp only [trace, traceList, trace_flatBlock]
    cases c.eval v <;> simp
  | case6 _ _ _ _ _ _ _ _ _ _ ih | case7 _ _ _ _ _ _ _ _ ih | case8 _ _ _ _ _ _ _ _ ih =>
    simp [ih (fuel_step h), traceList, traceList_append]

theorem stripNot_sound (c : Cond) (t e : Ast) :
    (bif (stripNot c t e).1.eval v then trace v it (stripNot c t e).2.1 else trace v it (stripNot c t e).2.2)
      = (bif c.eval v then trace v it t else trace v it e) := by
  induction c generalizing t e with
  | not c ih =>
    simp only [stripNot, Cond.eval]
    rw [ih e t]
    cases c.eval v <;> simp
  | tt | ff | flag => simp [stripNot]

theorem traceList_dropWhile_null (l : List Ast) : traceList v it (l.dropWhile isNull) = traceList v it l := by
  induction l with
  | nil => rfl
  | cons a as ih =>
    cases h : isNull a
    · simp [List.dropWhile, h]
    · simp [List.dropWhile, h, traceList, trace_of_isNull v it h, ih]

theorem sizeList_dropWhile_le (l : List Ast) : sizeList (l.dropWhile isNull) ≤ sizeList l := by
  induction l with
  | nil => simp
  | cons a as ih =>
    cases h : isNull a
    · simp [List.dropWhile, h]
    · simp only [List.dropWhile, h, sizeList]
      omega

theorem collapse_sound (c : Cond) (t' e' : Ast) :
    (bif c.eval v then trace v it (collapseT c t') else trace v it (collapseE c e'))
      = (bif c.eval v then trace v it t' else trace v it e') := by
  cases hc : c.eval v
  · cases e' <;> simp [collapseE]
    rename_i ci ti ei
    split
    · rename_i h
      subst h
      simp [trace, hc]
    · rfl
  · cases t' <;> simp [collapseT]
    rename_i ci ti ei
    split
    · rename_i h
      subst h
      simp [trace, hc]
    · rfl

/-- the value of pass 2; the error branch is never taken (`simp_eq`) -/
def simpD (a : Ast) : Ast :=
  match simp a with
  | .ok a' => a'
  | .error _ => .null

theorem simp_eq (a : Ast) : simp a = .ok (simpD a) := by
  obtain ⟨a', h⟩ := simp_total a
  simp [simpD, h]

theorem simpList_eq (cs : List Ast) : simpList cs = .ok (cs.map simpD) := by
  induction cs with
  | nil => rfl
  | cons a as ih => simp [simpList, simp_eq a, ih, bind, Except.bind, pure, Except.pure]

theorem simpD_of_ok {a a' : Ast} (h : simp a = .ok a') : a' = simpD a := by
  simp [simpD, h]

theorem map_simpD_of_ok {cs q : List Ast} (h : simpList cs = .ok q) : q = cs.map simpD :=
  (Except.ok.inj ((simpList_eq cs).symm.trans h)).symm

theorem simpD_ifThen (c : Cond) (t : Ast) : simpD (.ifThen c t) = .ifThen c (simpD t) := by
  refine (simpD_of_ok ?_).symm
  simp [simp, simp_eq t, bind, Except.bind, pure, Except.pure]

theorem simpD_loop (x : Nat) (b : Ast) : simpD (.loop x b) = .loop x (simpD b) := by
  refine (simpD_of_ok ?_).symm
  simp [simp, simp_eq b, bind, Except.bind, pure, Except.pure]

theorem simpD_ite (c : Cond) (t e : Ast) : simpD (.ite c t e) =
    if c = .tt then simpD t else if c = .ff then simpD e else
      .ite (stripNot c (simpD t) (simpD e)).1
        (collapseT (stripNot c (simpD t) (simpD e)).1 (stripNot c (simpD t) (simpD e)).2.1)
        (collapseE (stripNot c (simpD t) (simpD e)).1 (stripNot c (simpD t) (simpD e)).2.2) := by
  refine (simpD_of_ok ?_).symm
  simp only [simp, simp_eq t, simp_eq e, bind, Except.bind, pure, Except.pure]
  split
  · rfl
  · split <;> rfl

theorem simpD_block (cs : List Ast) : simpD (.block cs) =
    match cs.map simpD with
    | [] => .block []
    | q =>
      match q.dropWhile isNull with
      | [] => .null
      | cur :: rest =>
        match mergeLoop (2 * sizeList q + 2) cur rest [] with
        | [c] => c
        | l => .block l := by
  refine (simpD_of_ok ?_).symm
  simp only [simp, simpList_eq cs, bind, Except.bind, pure, Except.pure]
  generalize cs.map simpD = q
  cases q with
  | nil => rfl
  | cons x xs =>
    dsimp only
    cases List.dropWhile isNull (x :: xs) with
    | nil => rfl
    | cons cur rest =>
      dsimp only
      rcases mergeLoop _ cur rest [] with _ | ⟨c, _ | ⟨d, l⟩⟩ <;> rfl

theorem trace_simpD (a : Ast) : trace v it (simpD a) = trace v it a := by
  induction a using Ast.induction with
  | leaf | null => rfl
  | ifThen c t ih => simp [simpD_ifThen, trace, ih]
  | loop x b ih => simp [simpD_loop, trace, ih]
  | ite c t e iht ihe =>
    rw [simpD_ite]
    split
    · simp [*, trace, Cond.eval]
    · split
      · simp [*, trace, Cond.eval]
      · simp only [trace]
        rw [collapse_sound, stripNot_sound, iht, ihe]
  | block cs ih =>
    have hq : traceList v it ((cs.map simpD).dropWhile isNull) = traceList v it cs := by
      rw [traceList_dropWhile_null, traceList_map_congr v it ih]
    rw [simpD_block, trace, ← hq]
    generalize cs.map simpD = q
    split
    · rfl
    · split
      · simp [*, trace, traceList]
      · rename_i cur rest hcr
        have hsz : sizeList rest < 2 * sizeList q + 2 := by
          have := sizeList_dropWhile_le q
          simp only [hcr, sizeList] at this
          omega
        have hm := mergeLoop_trace v it (2 * sizeList q + 2) cur rest [] hsz
        rw [hcr]
        split
        · rename_i c hc
          simpa [hc, traceList] using hm
        · simpa [trace, traceList] using hm

theorem traceList_simpList : ∀ (cs q : List Ast), simpList cs = .ok q → traceList v it q = traceList v it cs :=
  fun _ _ h => map_simpD_of_ok h ▸ traceList_map_congr v it fun a _ => trace_simpD v it a

theorem simplify_eq (a : Ast) : simplify a = .ok (postTop (simpD (pre a))) := by
  simp [simplify, simp_eq, bind, Except.bind, pure, Except.pure]

theorem simplify_eq_ok {a a' : Ast} (h : simplify a = .ok a') : a' = postTop (simpD (pre a)) := by
  rw [simplify_eq] at h
  exact (Except.ok.inj h).symm

theorem isNull_postTop (b : Ast) : isNull (postTop b) = false := by
  unfold postTop
  split
  · rfl
  · cases hp : post b <;> simp_all [isNull]

end Dagrt.Simplify
