import Dagrt.Model.Fuse
import Dagrt.Proofs.ExprInd
/-!
The evaluator meets the store and the loop counters only at variables, and `F` only at calls.
`evalI_rel` says so once: two evaluations (of `e` and of `renameExpr ρ e`) whose variable look-ups
are related give related results.  That the reads are variables of the expression (C08), that
stores agreeing on them give the same result (C08, C02) and that renaming commutes with evaluation
(C16, `RenameProofs`) are instances.
-/
namespace Dagrt.Sem
open Dagrt Dagrt.Fuse

def AgreeOn (S : List Name) (σ σ' : Store) : Prop := ∀ x ∈ S, σ x = σ' x

theorem AgreeOn.mono {S T : List Name} {σ σ' : Store} (h : AgreeOn T σ σ') (hs : ∀ x ∈ S, x ∈ T) :
    AgreeOn S σ σ' := fun x hx => h x (hs x hx)

theorem AgreeOn.get {S : List Name} {σ σ' : Store} (h : AgreeOn S σ σ') {x : Name} (hx : x ∈ S) :
    σ.get x = σ'.get x := by simp only [Store.get, h x hx]

theorem renameL_eq_map (ρ : Name → Name) (cs : List Expr) : renameL ρ cs = cs.map (renameExpr ρ) := by
  induction cs with
  | nil => rfl
  | cons c cs ih => rw [renameL, ih, List.map_cons]

theorem renameK_eq_map (ρ : Name → Name) (kw : List (Name × Expr)) :
    renameK ρ kw = kw.map fun p => (p.1, renameExpr ρ p.2) := by
  induction kw with
  | nil => rfl
  | cons p kw ih => rw [renameK, ih, List.map_cons]

theorem depVarsL_eq_flatMap (cs : List Expr) : depVarsL cs = cs.flatMap depVars := by
  induction cs with
  | nil => rfl
  | cons c cs ih => rw [depVarsL, ih, List.flatMap_cons]

theorem depVarsK_eq_flatMap (kw : List (Name × Expr)) : depVarsK kw = kw.flatMap fun p => depVars p.2 := by
  induction kw with
  | nil => rfl
  | cons p kw ih => rw [depVarsK, ih, List.flatMap_cons]

theorem mem_depVarsL {x : Name} {cs : List Expr} : x ∈ depVarsL cs ↔ ∃ c ∈ cs, x ∈ depVars c :=
  depVarsL_eq_flatMap cs ▸ List.mem_flatMap

theorem mem_depVarsK {x : Name} {kw : List (Name × Expr)} : x ∈ depVarsK kw ↔ ∃ p ∈ kw, x ∈ depVars p.2 :=
  depVarsK_eq_flatMap kw ▸ List.mem_flatMap

/-- what an induction over `Expr` knows of the operands, from what holds of the operands' variables -/
theorem forall_of_depVarsL {V : Name → Prop} {R : Expr → Prop} {cs : List Expr}
    (ih : ∀ c ∈ cs, (∀ x ∈ depVars c, V x) → R c) (hv : ∀ x ∈ depVarsL cs, V x) : ∀ c ∈ cs, R c :=
  fun c hc => ih c hc fun x hx => hv x (mem_depVarsL.2 ⟨c, hc, hx⟩)

/-- How two results of the instrumented evaluator are compared: the same value, reads related by `Q`.
    `Q` is `fun _ _ => True` for renaming (values only), `Eq` for agreement of stores (the reads too)
    and `fun r _ => ∀ x ∈ r, x ∈ D` to bound the reads of the first result. -/
def ResRel {α : Type} (Q : List Name → List Name → Prop) (p q : α × List Name) : Prop :=
  p.1 = q.1 ∧ Q p.2 q.2

/-- `Q` holds of the two ways the evaluator builds its read lists: `[]` and `++` -/
structure AppendClosed (Q : List Name → List Name → Prop) : Prop where
  nil : Q [] []
  app : ∀ {a a' b b'}, Q a a' → Q b b' → Q (a ++ b) (a' ++ b')

theorem AppendClosed.true : AppendClosed fun _ _ => True := ⟨trivial, fun _ _ => trivial⟩
theorem AppendClosed.eq : AppendClosed Eq := ⟨rfl, fun h h' => h ▸ h' ▸ rfl⟩
theorem AppendClosed.sub (D : List Name) : AppendClosed fun r _ => ∀ x ∈ r, x ∈ D :=
  ⟨nofun, fun h h' x hx => (List.mem_append.1 hx).elim (h x) (h' x)⟩

section rel
variable {F F' : Funs} {env env' : List (Name × Int)} {σ σ' : Store} {f : Expr → Expr}
  {Q : List Name → List Name → Prop} (hQ : AppendClosed Q)
include hQ

theorem evalFold_rel (op : Val → Val → Val) (cs : List Expr) (acc : Val)
    (h : ∀ c ∈ cs, ResRel Q (evalI F env σ c) (evalI F' env' σ' (f c))) :
    ResRel Q (evalFold F env σ op acc cs) (evalFold F' env' σ' op acc (cs.map f)) := by
  induction cs generalizing acc with
  | nil => exact ⟨rfl, hQ.nil⟩
  | cons c cs ih =>
    obtain ⟨⟨hv, hr⟩, hcs⟩ := List.forall_mem_cons.1 h
    obtain ⟨ihv, ihr⟩ := ih (op acc (evalI F env σ c).1) hcs
    simp only [List.map_cons, evalFold, ← hv]
    exact ⟨ihv, hQ.app hr ihr⟩

theorem evalFold1_rel (op : Val → Val → Val) : ∀ (cs : List Expr),
    (∀ c ∈ cs, ResRel Q (evalI F env σ c) (evalI F' env' σ' (f c))) →
    ResRel Q (evalFold1 F env σ op cs) (evalFold1 F' env' σ' op (cs.map f))
  | [], _ => ⟨rfl, hQ.nil⟩
  | [c], h => h c List.mem_cons_self
  | c :: d :: cs, h => by
    obtain ⟨hv, hr⟩ := h c List.mem_cons_self
    obtain ⟨ihv, ihr⟩ := evalFold1_rel op (d :: cs) fun c hc => h c (List.mem_cons_of_mem _ hc)
    simp only [List.map_cons] at ihv ihr
    simp only [List.map_cons, evalFold1, ← hv, ← ihv]
    exact ⟨rfl, hQ.app hr ihr⟩

theorem evalAll_rel (cs : List Expr) (h : ∀ c ∈ cs, ResRel Q (evalI F env σ c) (evalI F' env' σ' (f c))) :
    ResRel Q (evalAll F env σ cs) (evalAll F' env' σ' (cs.map f)) := by
  induction cs with
  | nil => exact ⟨rfl, hQ.nil⟩
  | cons c cs ih =>
    obtain ⟨⟨hv, hr⟩, hcs⟩ := List.forall_mem_cons.1 h
    obtain ⟨ihv, ihr⟩ := ih hcs
    simp only [List.map_cons, evalAll, ← hv]
    cases (evalI F env σ c).1.truthy
    · exact ⟨rfl, hr⟩
    · exact ⟨ihv, hQ.app hr ihr⟩

theorem evalAny_rel (cs : List Expr) (h : ∀ c ∈ cs, ResRel Q (evalI F env σ c) (evalI F' env' σ' (f c))) :
    ResRel Q (evalAny F env σ cs) (evalAny F' env' σ' (cs.map f)) := by
  induction cs with
  | nil => exact ⟨rfl, hQ.nil⟩
  | cons c cs ih =>
    obtain ⟨⟨hv, hr⟩, hcs⟩ := List.forall_mem_cons.1 h
    obtain ⟨ihv, ihr⟩ := ih hcs
    simp only [List.map_cons, evalAny, ← hv]
    cases (evalI F env σ c).1.truthy
    · exact ⟨ihv, hQ.app hr ihr⟩
    · exact ⟨rfl, hr⟩

theorem evalArgs_rel (cs : List Expr) (h : ∀ c ∈ cs, ResRel Q (evalI F env σ c) (evalI F' env' σ' (f c))) :
    ResRel Q (evalArgs F env σ cs) (evalArgs F' env' σ' (cs.map f)) := by
  induction cs with
  | nil => exact ⟨rfl, hQ.nil⟩
  | cons c cs ih =>
    obtain ⟨⟨hv, hr⟩, hcs⟩ := List.forall_mem_cons.1 h
    obtain ⟨ihv, ihr⟩ := ih hcs
    simp only [List.map_cons, evalArgs, ← hv, ← ihv]
    exact ⟨rfl, hQ.app hr ihr⟩

theorem evalKw_rel (kw : List (Name × Expr))
    (h : ∀ p ∈ kw, ResRel Q (evalI F env σ p.2) (evalI F' env' σ' (f p.2))) :
    ResRel Q (evalKw F env σ kw) (evalKw F' env' σ' (kw.map fun p => (p.1, f p.2))) := by
  induction kw with
  | nil => exact ⟨rfl, hQ.nil⟩
  | cons p kw ih =>
    obtain ⟨⟨hv, hr⟩, hkw⟩ := List.forall_mem_cons.1 h
    obtain ⟨ihv, ihr⟩ := ih hkw
    simp only [List.map_cons, evalKw, ← hv, ← ihv]
    exact ⟨rfl, hQ.app hr ihr⟩

theorem evalI_rel {ρ : Name → Name} (hF : ∀ g vs ks, F' (ρ g) vs ks = F g vs ks) (e : Expr)
    (hv : ∀ x ∈ depVars e, ResRel Q (evalI F env σ (.var x)) (evalI F' env' σ' (.var (ρ x)))) :
    ResRel Q (evalI F env σ e) (evalI F' env' σ' (renameExpr ρ e)) := by
  induction e using Expr.induction with
  | const c => cases c <;> exact ⟨rfl, hQ.nil⟩
  | var x => exact hv x (List.mem_singleton.2 rfl)
  | sum cs ih | prod cs ih =>
    simp only [evalI, renameExpr, renameL_eq_map]
    exact evalFold_rel hQ _ cs _ (forall_of_depVarsL ih hv)
  | min cs ih | max cs ih =>
    simp only [evalI, renameExpr, renameL_eq_map]
    exact evalFold1_rel hQ _ cs (forall_of_depVarsL ih hv)
  | land cs ih =>
    simp only [evalI, renameExpr, renameL_eq_map]
    exact evalAll_rel hQ cs (forall_of_depVarsL ih hv)
  | lor cs ih =>
    simp only [evalI, renameExpr, renameL_eq_map]
    exact evalAny_rel hQ cs (forall_of_depVarsL ih hv)
  | quot a b iha ihb | pow a b iha ihb | sub a b iha ihb | cmp _ a b iha ihb =>
    simp only [depVars, List.forall_mem_append] at hv
    obtain ⟨ha, hra⟩ := iha hv.1
    obtain ⟨hb, hrb⟩ := ihb hv.2
    simp only [evalI, renameExpr, ← ha, ← hb]
    exact ⟨rfl, hQ.app hra hrb⟩
  | attr a _ iha | lnot a iha =>
    obtain ⟨ha, hra⟩ := iha hv
    simp only [evalI, renameExpr, ← ha]
    exact ⟨rfl, hra⟩
  | call g args kw iha ihk =>
    simp only [depVars, List.forall_mem_append] at hv
    obtain ⟨ha, hra⟩ := evalArgs_rel hQ args (forall_of_depVarsL iha hv.1)
    obtain ⟨hk, hrk⟩ := evalKw_rel hQ kw fun p hp => ihk p hp fun x hx => hv.2 x (mem_depVarsK.2 ⟨p, hp, hx⟩)
    simp only [evalI, renameExpr, renameL_eq_map, renameK_eq_map, ← ha, ← hk, hF]
    exact ⟨rfl, hQ.app hra hrk⟩
  | ite c t e ihc iht ihe =>
    simp only [depVars, List.forall_mem_append] at hv
    obtain ⟨hc, hrc⟩ := ihc hv.1.1
    obtain ⟨ht, hrt⟩ := iht hv.1.2
    obtain ⟨he, hre⟩ := ihe hv.2
    simp only [evalI, renameExpr, ← hc]
    cases (evalI F env σ c).1.truthy
    · exact ⟨he, hQ.app hrc hre⟩
    · exact ⟨ht, hQ.app hrc hrt⟩
end rel

theorem renameExpr_id (e : Expr) : renameExpr id e = e := by
  induction e using Expr.induction with
  | const c | var x => rfl
  | sum cs ih | prod cs ih | land cs ih | lor cs ih | min cs ih | max cs ih =>
    simp only [renameExpr, renameL_eq_map, List.map_congr_left ih, List.map_id']
  | quot a b iha ihb | pow a b iha ihb | sub a b iha ihb | cmp _ a b iha ihb => simp only [renameExpr, iha, ihb]
  | attr a _ iha | lnot a iha => simp only [renameExpr, iha]
  | call g args kw iha ihk =>
    have hk : kw.map (fun p => (p.1, renameExpr id p.2)) = kw.map fun p => p :=
      List.map_congr_left fun p hp => by rw [ihk p hp]
    simp only [renameExpr, renameL_eq_map, renameK_eq_map, List.map_congr_left iha, hk, List.map_id', id]
  | ite c t e ihc iht ihe => simp only [renameExpr, ihc, iht, ihe]

theorem evalI_reads (F : Funs) (env : List (Name × Int)) (σ : Store) (e : Expr) :
    ∀ x ∈ (evalI F env σ e).2, x ∈ depVars e :=
  (evalI_rel (AppendClosed.sub (depVars e)) (ρ := id) (F' := F) (env' := env) (σ' := σ) (fun _ _ _ => rfl) e
    fun x hx => ⟨rfl, fun y hy => by
      simp only [evalI] at hy
      split at hy
      · cases hy
      · exact List.mem_singleton.1 hy ▸ hx⟩).2

theorem reads_elems (F : Funs) (env : List (Name × Int)) (σ : Store) (cs : List Expr) :
    ∀ c ∈ cs, ResRel (fun r _ => ∀ x ∈ r, x ∈ depVarsL cs) (evalI F env σ c) (evalI F env σ c) :=
  fun c hc => ⟨rfl, fun x hx => mem_depVarsL.2 ⟨c, hc, evalI_reads F env σ c x hx⟩⟩

theorem evalFold_reads (F : Funs) (env : List (Name × Int)) (σ : Store) (op : Val → Val → Val) :
    ∀ (acc : Val) (cs : List Expr), ∀ x ∈ (evalFold F env σ op acc cs).2, x ∈ depVarsL cs := fun acc cs =>
  (evalFold_rel (f := id) (AppendClosed.sub _) op cs acc (reads_elems F env σ cs)).2
theorem evalFold1_reads (F : Funs) (env : List (Name × Int)) (σ : Store) (op : Val → Val → Val) :
    ∀ (cs : List Expr), ∀ x ∈ (evalFold1 F env σ op cs).2, x ∈ depVarsL cs := fun cs =>
  (evalFold1_rel (f := id) (AppendClosed.sub _) op cs (reads_elems F env σ cs)).2
theorem evalAll_reads (F : Funs) (env : List (Name × Int)) (σ : Store) :
    ∀ (cs : List Expr), ∀ x ∈ (evalAll F env σ cs).2, x ∈ depVarsL cs := fun cs =>
  (evalAll_rel (f := id) (AppendClosed.sub _) cs (reads_elems F env σ cs)).2
theorem evalAny_reads (F : Funs) (env : List (Name × Int)) (σ : Store) :
    ∀ (cs : List Expr), ∀ x ∈ (evalAny F env σ cs).2, x ∈ depVarsL cs := fun cs =>
  (evalAny_rel (f := id) (AppendClosed.sub _) cs (reads_elems F env σ cs)).2
theorem evalArgs_reads (F : Funs) (env : List (Name × Int)) (σ : Store) :
    ∀ (cs : List Expr), ∀ x ∈ (evalArgs F env σ cs).2, x ∈ depVarsL cs := fun cs =>
  (evalArgs_rel (f := id) (AppendClosed.sub _) cs (reads_elems F env σ cs)).2
theorem evalKw_reads (F : Funs) (env : List (Name × Int)) (σ : Store) :
    ∀ (cs : List (Name × Expr)), ∀ x ∈ (evalKw F env σ cs).2, x ∈ depVarsK cs := fun cs =>
  (evalKw_rel (f := id) (F' := F) (env' := env) (σ' := σ) (AppendClosed.sub (depVarsK cs)) cs fun p hp =>
    ⟨rfl, fun x hx => mem_depVarsK.2 ⟨p, hp, evalI_reads F env σ p.2 x hx⟩⟩).2

theorem ResRel.eq {α : Type} {p q : α × List Name} (h : ResRel Eq p q) : p = q := Prod.ext h.1 h.2

theorem evalI_agree (F : Funs) (env : List (Name × Int)) {σ σ' : Store} (e : Expr)
    (h : AgreeOn (depVars e) σ σ') : evalI F env σ e = evalI F env σ' e := by
  have := evalI_rel AppendClosed.eq (ρ := id) (F' := F) (env' := env) (σ' := σ') (F := F) (env := env) (σ := σ)
    (fun _ _ _ => rfl) e fun _ hx => by simp only [evalI, id, h.get hx]; exact ⟨rfl, rfl⟩
  rw [renameExpr_id] at this
  exact this.eq

theorem agree_elems {σ σ' : Store} {cs : List Expr} (h : AgreeOn (depVarsL cs) σ σ') (F : Funs)
    (env : List (Name × Int)) : ∀ c ∈ cs, ResRel Eq (evalI F env σ c) (evalI F env σ' c) := fun c hc =>
  evalI_agree F env c (h.mono fun _ hx => mem_depVarsL.2 ⟨c, hc, hx⟩) ▸ ⟨rfl, rfl⟩

theorem evalFold_agree (F : Funs) (env : List (Name × Int)) {σ σ' : Store} (op : Val → Val → Val) :
    ∀ (acc : Val) (cs : List Expr), AgreeOn (depVarsL cs) σ σ' →
      evalFold F env σ op acc cs = evalFold F env σ' op acc cs := fun acc cs h =>
  (List.map_id cs ▸ evalFold_rel (f := id) AppendClosed.eq op cs acc (agree_elems h F env)).eq
theorem evalFold1_agree (F : Funs) (env : List (Name × Int)) {σ σ' : Store} (op : Val → Val → Val) :
    ∀ (cs : List Expr), AgreeOn (depVarsL cs) σ σ' → evalFold1 F env σ op cs = evalFold1 F env σ' op cs := fun cs h =>
  (List.map_id cs ▸ evalFold1_rel (f := id) AppendClosed.eq op cs (agree_elems h F env)).eq
theorem evalAll_agree (F : Funs) (env : List (Name × Int)) {σ σ' : Store} :
    ∀ (cs : List Expr), AgreeOn (depVarsL cs) σ σ' → evalAll F env σ cs = evalAll F env σ' cs := fun cs h =>
  (List.map_id cs ▸ evalAll_rel (f := id) AppendClosed.eq cs (agree_elems h F env)).eq
theorem evalAny_agree (F : Funs) (env : List (Name × Int)) {σ σ' : Store} :
    ∀ (cs : List Expr), AgreeOn (depVarsL cs) σ σ' → evalAny F env σ cs = evalAny F env σ' cs := fun cs h =>
  (List.map_id cs ▸ evalAny_rel (f := id) AppendClosed.eq cs (agree_elems h F env)).eq
theorem evalArgs_agree (F : Funs) (env : List (Name × Int)) {σ σ' : Store} :
    ∀ (cs : List Expr), AgreeOn (depVarsL cs) σ σ' → evalArgs F env σ cs = evalArgs F env σ' cs := fun cs h =>
  (List.map_id cs ▸ evalArgs_rel (f := id) AppendClosed.eq cs (agree_elems h F env)).eq
theorem evalKw_agree (F : Funs) (env : List (Name × Int)) {σ σ' : Store} :
    ∀ (cs : List (Name × Expr)), AgreeOn (depVarsK cs) σ σ' → evalKw F env σ cs = evalKw F env σ' cs := fun cs h => by
  have := evalKw_rel (f := id) AppendClosed.eq cs fun p hp =>
    (evalI_agree F env p.2 (h.mono fun x hx => mem_depVarsK.2 ⟨p, hp, hx⟩) ▸ ⟨rfl, rfl⟩ :
      ResRel Eq (evalI F env σ p.2) (evalI F env σ' (id p.2)))
  rw [show cs.map (fun p => (p.1, id p.2)) = cs from List.map_id' cs] at this
  exact this.eq

theorem eval_agree (F : Funs) (σ σ' : Store) (c : Expr) (h : ∀ x ∈ depVars c, σ x = σ' x) :
    eval F [] σ c = eval F [] σ' c := by
  unfold eval; rw [evalI_agree F [] c h]

theorem eval_var (F : Funs) (σ : Store) (x : Name) : eval F [] σ (.var x) = σ.get x := by
  simp [eval, evalI, lookupEnv]

end Dagrt.Sem
