import Dagrt.Model.Builder
import Dagrt.Proofs.StmtProofs
/-!
What C02 rests on, in three parts: the invariant of `_add_statement`'s bookkeeping (`Inv`, `inv_add`) and
of the emitted list (`OutOK`), for every sequence of builder calls (`run_ok`); statements whose
effective sets do not conflict commute (`exec_comm`); in a linear extension of the recorded
dependencies nothing depends on what is scheduled after it (`LinExt`, `reach_before`, `LinExt.pairwise`).
-/
namespace Dagrt.Builder
open Dagrt Dagrt.Sem

/-- `Reach D i k`: `k` depends on `i` through zero or more recorded edges (`d ∈ D k`: `k` depends on `d`) -/
inductive Reach (D : Nat → List Nat) : Nat → Nat → Prop where
  | refl (i) : Reach D i i
  | step {i d k} : d ∈ D k → Reach D i d → Reach D i k

theorem Reach.mono {D D' : Nat → List Nat} (h : ∀ k d, d ∈ D k → d ∈ D' k) {i k} (r : Reach D i k) : Reach D' i k := by
  induction r with
  | refl => exact .refl _
  | step hd _ ih => exact .step (h _ _ hd) ih

/-- `i` (the earlier statement) writes what `k` reads or writes, or reads what `k` writes -/
def Conflict (s : Core) (i k : Nat) : Prop :=
  (∃ v, v ∈ s.W i ∧ (v ∈ s.R k ∨ v ∈ s.W k)) ∨ (∃ v, v ∈ s.R i ∧ v ∈ s.W k)

/-- The maps `writer` / `readers` remember only the LAST writer of a name and the readers since then;
    the invariant says that this is enough: every earlier access is reached from what they remember
    (`wr`, `rd`), so the edges put on a new statement cover all its conflicts by paths (`cr`, the
    statement C02 uses).  `unused`, `bw`, `br`, `back`: nothing is recorded for, or points to,
    statements not yet emitted, and edges point backwards. -/
structure Inv (s : Core) : Prop where
  unused : ∀ k, s.n ≤ k → s.D k = []
  wr : ∀ v i, i < s.n → v ∈ s.W i → ∃ w, s.writer v = some w ∧ Reach s.D i w
  rd : ∀ v i, i < s.n → v ∈ s.R i → i ∈ s.readers v ∨ ∃ w, s.writer v = some w ∧ Reach s.D i w
  bw : ∀ v w, s.writer v = some w → w < s.n
  br : ∀ v r, r ∈ s.readers v → r < s.n
  back : ∀ k d, d ∈ s.D k → d < k
  cr : ∀ i k, i < k → k < s.n → Conflict s i k → ∃ d, d ∈ s.D k ∧ Reach s.D i d

theorem inv_init : Inv Core.init := by
  refine ⟨?_, ?_, ?_, ?_, ?_, ?_, ?_⟩ <;> simp [Core.init]

theorem mem_depsOf {s : Core} {r w : List Name} {d : Nat} : d ∈ depsOf s r w ↔
    (∃ v, (v ∈ r ∨ v ∈ w) ∧ s.writer v = some d) ∨ (∃ v, v ∈ w ∧ d ∈ s.readers v) := by
  simp [depsOf, List.mem_filterMap, List.mem_flatMap, or_and_right, exists_or, or_assoc]

section add
variable (s : Core) (r w : List Name)

theorem add_writer (v : Name) : (s.add r w).writer v = if v ∈ w then some s.n else s.writer v := rfl
theorem add_readers (v : Name) : (s.add r w).readers v =
    if v ∈ w then [] else if v ∈ r then s.n :: s.readers v else s.readers v := rfl
theorem add_D_self : (s.add r w).D s.n = depsOf s r w := if_pos rfl
theorem add_D_of_lt {k : Nat} (h : k < s.n) : (s.add r w).D k = s.D k := if_neg (Nat.ne_of_lt h)
theorem add_R_self : (s.add r w).R s.n = r := if_pos rfl
theorem add_R_of_lt {k : Nat} (h : k < s.n) : (s.add r w).R k = s.R k := if_neg (Nat.ne_of_lt h)
theorem add_W_self : (s.add r w).W s.n = w := if_pos rfl
theorem add_W_of_lt {k : Nat} (h : k < s.n) : (s.add r w).W k = s.W k := if_neg (Nat.ne_of_lt h)

end add

/-- The `depends_on` of a new statement with effective sets `r`, `w` holds a statement from which every
    earlier writer of a variable it accesses (RAW, WAW) and every earlier reader of a variable it
    writes (WAR) is reached. -/
theorem Inv.covered {s : Core} (h : Inv s) (r w : List Name) {i : Nat} (hi : i < s.n) {v : Name}
    (hc : (v ∈ s.W i ∧ (v ∈ r ∨ v ∈ w)) ∨ (v ∈ s.R i ∧ v ∈ w)) :
    ∃ d, d ∈ depsOf s r w ∧ Reach s.D i d := by
  rcases hc with ⟨hv, hacc⟩ | ⟨hv, hw⟩
  · obtain ⟨x, hx, hr⟩ := h.wr v i hi hv
    exact ⟨x, mem_depsOf.mpr (Or.inl ⟨v, hacc, hx⟩), hr⟩
  · rcases h.rd v i hi hv with hrd | ⟨x, hx, hr⟩
    · exact ⟨i, mem_depsOf.mpr (Or.inr ⟨v, hw, hrd⟩), .refl _⟩
    · exact ⟨x, mem_depsOf.mpr (Or.inl ⟨v, Or.inr hw, hx⟩), hr⟩

theorem inv_add (s : Core) (r w : List Name) (h : Inv s) : Inv (s.add r w) := by
  have hDsub : ∀ k d, d ∈ s.D k → d ∈ (s.add r w).D k := fun k d hd => by
    have hk : k < s.n := Nat.lt_of_not_le fun hle => by
      rw [h.unused k hle] at hd
      cases hd
    rwa [add_D_of_lt s r w hk]
  have mono : ∀ {i k}, Reach s.D i k → Reach (s.add r w).D i k := fun r' => Reach.mono hDsub r'
  -- the new statement `s.n` is reached from every earlier statement it conflicts with
  have new : ∀ {i v}, i < s.n → (v ∈ s.W i ∧ (v ∈ r ∨ v ∈ w)) ∨ (v ∈ s.R i ∧ v ∈ w) →
      ∃ d, d ∈ (s.add r w).D s.n ∧ Reach (s.add r w).D i d := fun hi hc => by
    obtain ⟨d, hd, hr⟩ := h.covered r w hi hc
    exact ⟨d, by rwa [add_D_self], mono hr⟩
  have lt_or : ∀ {i}, i < (s.add r w).n → i < s.n ∨ i = s.n := fun hi => Nat.lt_succ_iff_lt_or_eq.mp hi
  have unused : ∀ k, s.n < k → (s.add r w).D k = [] := fun k hk =>
    (if_neg (Nat.ne_of_gt hk)).trans (h.unused k (Nat.le_of_lt hk))
  refine ⟨fun k hk => unused k hk, ?_, ?_, ?_, ?_, ?_, ?_⟩
  · -- the last writer of `v` is the new statement if it writes `v`, the old one otherwise
    intro v i hi hv
    rw [add_writer]
    rcases lt_or hi with hi | rfl
    · rw [add_W_of_lt s r w hi] at hv
      by_cases hvw : v ∈ w
      · obtain ⟨d, hd, hr⟩ := new hi (Or.inl ⟨hv, Or.inr hvw⟩)
        exact ⟨s.n, if_pos hvw, .step hd hr⟩
      · obtain ⟨x, hx, hr⟩ := h.wr v i hi hv
        exact ⟨x, (if_neg hvw).trans hx, mono hr⟩
    · rw [add_W_self] at hv
      exact ⟨s.n, if_pos hv, .refl _⟩
  · intro v i hi hv
    rw [add_writer, add_readers]
    by_cases hvw : v ∈ w
    · refine Or.inr ⟨s.n, if_pos hvw, ?_⟩
      rcases lt_or hi with hi | rfl
      · rw [add_R_of_lt s r w hi] at hv
        obtain ⟨d, hd, hr⟩ := new hi (Or.inr ⟨hv, hvw⟩)
        exact .step hd hr
      · exact .refl _
    · rw [if_neg hvw, if_neg hvw]
      rcases lt_or hi with hi | rfl
      · rw [add_R_of_lt s r w hi] at hv
        rcases h.rd v i hi hv with hrd | ⟨x, hx, hr⟩
        · left
          split
          · exact List.mem_cons_of_mem _ hrd
          · exact hrd
        · exact Or.inr ⟨x, hx, mono hr⟩
      · rw [add_R_self] at hv
        rw [if_pos hv]
        exact Or.inl List.mem_cons_self
  · intro v x hx
    rw [add_writer] at hx
    split at hx
    · exact Option.some.inj hx ▸ Nat.lt_succ_self s.n
    · exact Nat.lt_succ_of_lt (h.bw v x hx)
  · intro v x hx
    rw [add_readers] at hx
    -- `x` is the new statement or an old reader
    have : x = s.n ∨ x ∈ s.readers v := by
      split at hx
      · cases hx
      · split at hx
        · exact List.mem_cons.mp hx
        · exact Or.inr hx
    rcases this with rfl | hx
    · exact Nat.lt_succ_self _
    · exact Nat.lt_succ_of_lt (h.br v x hx)
  · intro k d hd
    rcases Nat.lt_trichotomy k s.n with hk | rfl | hk
    · rw [add_D_of_lt s r w hk] at hd
      exact h.back k d hd
    · rw [add_D_self] at hd
      rcases mem_depsOf.mp hd with ⟨v, _, hv⟩ | ⟨v, _, hv⟩
      · exact h.bw v d hv
      · exact h.br v d hv
    · rw [unused k hk] at hd
      cases hd
  · intro i k hik hk hc
    rcases lt_or hk with hk | rfl
    · have hi : i < s.n := Nat.lt_trans hik hk
      simp only [Conflict, add_W_of_lt s r w hi, add_R_of_lt s r w hi, add_W_of_lt s r w hk,
        add_R_of_lt s r w hk] at hc
      obtain ⟨d, hd, hr⟩ := h.cr i k hik hk hc
      exact ⟨d, hDsub k d hd, mono hr⟩
    · simp only [Conflict, add_W_of_lt s r w hik, add_R_of_lt s r w hik, add_W_self, add_R_self] at hc
      rcases hc with ⟨v, hvW, hacc⟩ | ⟨v, hvR, hvw⟩
      · exact new hik (Or.inl ⟨hvW, hacc⟩)
      · exact new hik (Or.inr ⟨hvR, hvw⟩)

theorem freshSearch_spec (seen : List Name) (pfx : Name) : ∀ (fuel k0 : Nat) (nm : Name) (k : Nat),
    freshSearch seen pfx fuel k0 = some (nm, k) → (∃ j, nm = genName pfx j) ∧ nm ∉ seen := by
  intro fuel
  induction fuel with
  | zero => intro _ _ _ h; simp [freshSearch] at h
  | succ fuel ih =>
    intro k0 nm k h
    unfold freshSearch at h
    simp only at h
    split at h
    · exact ih (k0 + 1) nm k h
    · rename_i hn
      simp at h
      exact ⟨⟨k0, h.1.symm⟩, by rw [← h.1]; exact hn⟩

theorem freshVar_ok {st : BState} {p : Name} (h : (freshVar st p).1.failed = none) :
    ∃ nm g, freshVar st p = ({ st with seen := st.seen ++ [nm], gens := g }, nm) ∧
      (∃ j, nm = genName p j) ∧ nm ∉ st.seen := by
  unfold freshVar at h ⊢
  split at h
  · rename_i nm k hs
    exact ⟨nm, _, rfl, freshSearch_spec _ _ _ _ _ _ hs⟩
  · cases h

theorem freshVar_core (st : BState) (p : Name) : (freshVar st p).1.core = st.core ∧
    (freshVar st p).1.out = st.out := by
  unfold freshVar; split <;> simp

/-- the bookkeeping `c` describes the `k`-th emitted entry: its `depends_on`, its effective write set,
    and a cover of its semantic read set -/
def Emitted (c : Core) (k : Nat) (p : Stmt × List Nat) : Prop :=
  p.2 = c.D k ∧ effW p.1 = c.W k ∧ ∀ x ∈ effR p.1, x ∈ c.R k ∨ x ∈ c.W k

/-- the emitted list mirrors the bookkeeping (only `core` and `out` matter, so every builder call that
    emits nothing keeps it by definition) -/
structure OutOK (c : Core) (out : List (Stmt × List Nat)) : Prop where
  len : out.length = c.n
  get : ∀ k p, out[k]? = some p → Emitted c k p

theorem outOK_init : OutOK Core.init [] := ⟨rfl, fun k p h => by simp at h⟩

/-! `effReads st k` / `effWrites k` are the sets `_add_statement` computes, `Core.R k` / `Core.W k` record
    them per statement, `Sem.effR` / `Sem.effW` are the sets the semantics stays within (`exec_frame`,
    `exec_agree`).  The builder's sets cover the semantic ones: -/

theorem effW_eq (c : Expr) (k : Kind) : effW ⟨c, k⟩ = effWrites k := by
  simp [effW, effWrites, declWrites]

theorem effR_sub (st : BState) (k : Kind) :
    ∀ x ∈ effR ⟨condOf st.condStack, k⟩, x ∈ effReads st k ∨ x ∈ effWrites k := by
  intro x hx
  simp only [effR, declReads, declWrites, List.mem_cons, List.mem_append] at hx
  simp only [effReads, effWrites, kindReads, declReads, declWrites, depVars, List.nil_append, List.mem_append,
    List.mem_singleton]
  rcases hx with h | h | h
  · exact .inl (.inl (.inl (.inr h)))
  · exact h.elim (fun h => .inl (.inl (.inr h))) fun h => .inl (.inl (.inl (.inl h)))
  · exact .inr (.inl h)

theorem getElem?_snoc_cases {α} {l : List α} {a x : α} {j : Nat} (h : (l ++ [a])[j]? = some x) :
    (j < l.length ∧ l[j]? = some x) ∨ (j = l.length ∧ x = a) := by
  rcases Nat.lt_trichotomy j l.length with hl | rfl | hl
  · exact Or.inl ⟨hl, by rwa [List.getElem?_append_left hl] at h⟩
  · exact Or.inr ⟨rfl, by simpa using h.symm⟩
  · rw [List.getElem?_eq_none (by simp; omega)] at h
    cases h

theorem addStatement_outOK (st : BState) (k : Kind) (h : OutOK st.core st.out) :
    OutOK (addStatement st k).core (addStatement st k).out := by
  refine ⟨by simp [addStatement, Core.add, h.len], fun j p hj => ?_⟩
  rcases getElem?_snoc_cases hj with ⟨hjl, hj'⟩ | ⟨rfl, rfl⟩
  · rw [h.len] at hjl
    have := h.get j p hj'
    rwa [Emitted, ← add_D_of_lt _ (effReads st k) (effWrites k) hjl, ← add_W_of_lt _ (effReads st k) (effWrites k) hjl,
      ← add_R_of_lt _ (effReads st k) (effWrites k) hjl] at this
  · rw [h.len]
    refine ⟨(add_D_self ..).symm, by rw [effW_eq]; exact (add_W_self ..).symm, fun x hx => ?_⟩
    rw [addStatement, add_R_self, add_W_self]
    exact effR_sub st k x hx

theorem step_ok (st : BState) (op : BOp) (hi : Inv st.core) (ho : OutOK st.core st.out) :
    Inv (step st op).core ∧ OutOK (step st op).core (step st op).out := by
  have hfresh : ∀ p, Inv (freshVar st p).1.core ∧ OutOK (freshVar st p).1.core (freshVar st p).1.out :=
    fun p => by
      rw [(freshVar_core st p).1, (freshVar_core st p).2]
      exact ⟨hi, ho⟩
  cases op with
  | stmt k => exact ⟨inv_add _ _ _ hi, addStatement_outOK st k ho⟩
  | ifBegin e => exact ⟨inv_add _ _ _ (hfresh _).1, addStatement_outOK _ _ (hfresh _).2⟩
  | ifEnd | elseBegin | elseEnd => simp only [step]; split <;> exact ⟨hi, ho⟩
  | fresh p => exact hfresh p

theorem run_induction {P : BState → Prop} (h0 : P BState.init) (hstep : ∀ st op, P st → P (step st op))
    (ops : List BOp) : P (run ops) :=
  List.foldlRecOn ops _ h0 fun st hst op _ => by
    split
    · exact hst
    · exact hstep st op hst

theorem run_ok (ops : List BOp) : Inv (run ops).core ∧ OutOK (run ops).core (run ops).out :=
  run_induction (P := fun st => Inv st.core ∧ OutOK st.core st.out) ⟨inv_init, outOK_init⟩
    (fun st op h => step_ok st op h.1 h.2) ops

theorem exec_comm (F : Funs) (s t : Stmt)
    (h1 : ∀ x ∈ effW s, x ∉ effR t ∧ x ∉ effW t) (h2 : ∀ x ∈ effW t, x ∉ effR s ∧ x ∉ effW s) (σ : Store) :
    exec F s (exec F t σ) = exec F t (exec F s σ) := by
  -- `t` leaves alone what `s` reads or writes, so on its write set `s` does the same with or without `t` before it
  have key : ∀ s t : Stmt, (∀ x ∈ effW t, x ∉ effR s ∧ x ∉ effW s) →
      ∀ x ∈ effW s, exec F s (exec F t σ) x = exec F s σ x := fun s t h2 x hx =>
    exec_agree F s (S := effR s ++ effW s) (fun y hy => List.mem_append_left _ hy)
      (fun y hy => List.mem_append_right _ hy)
      (fun y hy => exec_frame F t σ fun hyt => (List.mem_append.1 hy).elim (h2 y hyt).1 (h2 y hyt).2)
      x (List.mem_append_right _ hx)
  funext x
  by_cases hs : x ∈ effW s
  · rw [key s t h2 x hs, exec_frame F t _ (h1 x hs).2]
  · by_cases ht : x ∈ effW t
    · rw [exec_frame F s _ hs, key t s h1 x ht]
    · rw [exec_frame F s _ hs, exec_frame F t _ ht, exec_frame F t _ ht, exec_frame F s _ hs]

/-- `π` respects the dependency lists `D`: everything a statement depends on comes earlier -/
def LinExt (D : Nat → List Nat) (π : List Nat) : Prop :=
  ∀ pre j post, π = pre ++ j :: post → ∀ d ∈ D j, d ∈ pre

theorem reach_before {D : Nat → List Nat} {π : List Nat} (hl : LinExt D π) {i k : Nat} (hr : Reach D i k) :
    ∀ pre post, π = pre ++ k :: post → i = k ∨ i ∈ pre := by
  induction hr with
  | refl => intro _ _ _; exact Or.inl rfl
  | @step d k' hd _ ih =>
    intro pre post hsplit
    have hdpre := hl pre k' post hsplit d hd
    obtain ⟨p1, p2, hp⟩ := List.append_of_mem hdpre
    have := ih p1 (p2 ++ k' :: post) (by rw [hsplit, hp]; simp)
    right
    rcases this with e | h
    · subst e; exact hdpre
    · rw [hp]; simp [h]

theorem LinExt.not_reach {D : Nat → List Nat} {pre post : List Nat} {a b : Nat}
    (hl : LinExt D (pre ++ a :: post)) (hnd : (pre ++ a :: post).Nodup) (hb : b ∈ post) : ¬ Reach D b a := by
  intro hr
  obtain ⟨_, hnd', hdisj⟩ := List.nodup_append.mp hnd
  rcases reach_before hl hr pre post rfl with rfl | hpre
  · exact (List.nodup_cons.mp hnd').1 hb
  · exact hdisj b hpre b (List.mem_cons_of_mem _ hb) rfl

theorem pairwise_of_splits {α} {R : α → α → Prop} : ∀ (pre l : List α),
    (∀ p a q, pre ++ l = p ++ a :: q → ∀ b ∈ q, R a b) → l.Pairwise R := by
  intro pre l
  induction l generalizing pre with
  | nil => exact fun _ => .nil
  | cons a l ih =>
    intro h
    exact .cons (fun b hb => h pre a l rfl b hb)
      (ih (pre ++ [a]) fun p a' q e => h p a' q (by rw [← e, List.append_assoc]; rfl))

theorem LinExt.pairwise {D : Nat → List Nat} {π : List Nat} (hl : LinExt D π) (hnd : π.Nodup) :
    π.Pairwise (fun a b => ¬ Reach D b a) :=
  pairwise_of_splits [] π (fun p a q e b hb => by
    rw [List.nil_append] at e
    subst e
    exact hl.not_reach hnd hb)

end Dagrt.Builder
