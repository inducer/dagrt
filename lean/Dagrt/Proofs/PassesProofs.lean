import Dagrt.Model.Passes
/-! Helper lemmas for C07: what the expression mappers of the rewriting passes do to the pass state -/
namespace Dagrt.Passes
open Dagrt Dagrt.Sem Dagrt.Names Dagrt.Fuse

/-- the guard `c` is the guard `base`, possibly extended by flag literals (introduced by the
    conditional-expression expander) -/
inductive Carries (base : Expr) : Expr → Prop
  | same : Carries base base
  | pos {c : Expr} (f : Name) : Carries base c → Carries base (flatAnd c (.var f))
  | neg {c : Expr} (f : Name) : Carries base c → Carries base (flatAnd c (.lnot (.var f)))

theorem Carries.trans {a b c : Expr} (h1 : Carries a b) (h2 : Carries b c) : Carries a c := by
  induction h2 with
  | same => exact h1
  | pos f _ ih => exact Carries.pos f ih
  | neg f _ ih => exact Carries.neg f ih

/-- the id of the statement and the names it assigns were handed out by the generators of this pass -/
def Introduced (q : PS) (st : FStmt) : Prop :=
  st.id ∈ q.newIds ∧ ∀ w ∈ declWrites st.stmt, w.toList ∈ q.newVars

/-- the pass state only changes by asking a generator for a name or by emitting a statement whose
    guard carries the guard of the statement being rewritten -/
inductive Trace (base : Expr) : PS → PS → Prop
  | refl (p : PS) : Trace base p p
  | fv {p q : PS} (b : String) : Trace base p q → Trace base p (q.freshVar b).2
  | fi {p q : PS} (b : String) : Trace base p q → Trace base p (q.freshId b).2
  | emit {p q : PS} (st : FStmt) : Trace base p q → Carries base st.stmt.cond → Trace base p (q.emit st)

theorem Trace.trans {base : Expr} {p q r : PS} (h1 : Trace base p q) (h2 : Trace base q r) : Trace base p r := by
  induction h2 with
  | refl => exact h1
  | fv b _ ih => exact Trace.fv b ih
  | fi b _ ih => exact Trace.fi b ih
  | emit st _ hc ih => exact Trace.emit st ih hc

theorem Trace.weaken {a b : Expr} {p q : PS} (hab : Carries a b) (h : Trace b p q) : Trace a p q := by
  induction h with
  | refl => exact Trace.refl _
  | fv x _ ih => exact Trace.fv x ih
  | fi x _ ih => exact Trace.fi x ih
  | emit st _ hc ih => exact Trace.emit st ih (hab.trans hc)

@[simp] theorem emit_newIds (q : PS) (st : FStmt) : (q.emit st).newIds = q.newIds := rfl
@[simp] theorem emit_newVars (q : PS) (st : FStmt) : (q.emit st).newVars = q.newVars := rfl
@[simp] theorem freshVar_newIds (q : PS) (b : String) : (q.freshVar b).2.newIds = q.newIds := rfl
@[simp] theorem freshId_newVars (q : PS) (b : String) : (q.freshId b).2.newVars = q.newVars := rfl
theorem freshVar_mem (q : PS) (b : String) : (q.freshVar b).1.toList ∈ (q.freshVar b).2.newVars := by
  simp [PS.freshVar]
theorem freshId_mem (q : PS) (b : String) : (q.freshId b).1 ∈ (q.freshId b).2.newIds := by
  simp [PS.freshId]
theorem freshVar_sub (q : PS) (b : String) : ∀ x ∈ q.newVars, x ∈ (q.freshVar b).2.newVars := by
  intro x hx; simp [PS.freshVar, hx]
theorem freshId_sub (q : PS) (b : String) : ∀ x ∈ q.newIds, x ∈ (q.freshId b).2.newIds := by
  intro x hx; simp [PS.freshId, hx]

theorem Trace.mono {base : Expr} {p q : PS} (h : Trace base p q) :
    (∀ x ∈ p.newIds, x ∈ q.newIds) ∧ (∀ x ∈ p.newVars, x ∈ q.newVars) := by
  induction h with
  | refl => exact ⟨fun _ h => h, fun _ h => h⟩
  | fv b _ ih => exact ⟨fun x hx => by simpa using ih.1 x hx, fun x hx => freshVar_sub _ b x (ih.2 x hx)⟩
  | fi b _ ih => exact ⟨fun x hx => freshId_sub _ b x (ih.1 x hx), fun x hx => by simpa using ih.2 x hx⟩
  | emit st _ _ ih => exact ih

theorem normStmt_cond (s : Stmt) : (normStmt s).cond = s.cond := by
  unfold normStmt; split <;> rfl

mutual
theorem mapE_trace (m : Mode) (cond : Expr) (deps : List (List Char)) (e : Expr) (s : MS) :
    Trace cond s.ps (mapE m cond deps e s).2.ps :=
  match e, s with
  | .const _, s | .var _, s => by simp only [mapE]; exact Trace.refl _
  | .sum cs, s | .prod cs, s | .land cs, s | .lor cs, s | .min cs, s | .max cs, s => by
    simp only [mapE]; exact mapL_trace m cond deps cs s
  | .quot a b, s | .pow a b, s | .sub a b, s | .cmp _ a b, s => by
    simp only [mapE]; exact (mapE_trace m cond deps a s).trans (mapE_trace m cond deps b _)
  | .attr a _, s | .lnot a, s => by simp only [mapE]; exact mapE_trace m cond deps a s
  | .call f args kw, s => by
    cases m with
    | fai => rw [mapE]; exact (isoL_trace cond deps args s).trans (isoK_trace cond deps kw _)
    | fci =>
      rw [mapE]
      simp only
      refine Trace.emit _ ?_ Carries.same
      have h1 : Trace cond s.ps ((s.ps.freshVar "tmp").2.freshId "tmp").2 := Trace.fi _ (Trace.fv _ (Trace.refl _))
      exact (h1.trans (mapL_trace .fci cond deps args ⟨_, []⟩)).trans (mapK_trace .fci cond deps kw _)
    | ite => rw [mapE]; exact (mapL_trace .ite cond deps args s).trans (mapK_trace .ite cond deps kw _)
  | .ite c t e, s => by
    cases m with
    | ite =>
      rw [mapE]
      have h0 := Trace.fi "ifthenelse_else" (Trace.fi "ifthenelse_then" (Trace.fi "ifthenelse_cond"
        (Trace.fv "ifthenelse_result" (Trace.fv "<cond>ifthenelse_cond" (Trace.refl (base := cond) s.ps)))))
      -- the results of the five generator calls become variables: left as terms, Lean's unifier
      -- compares two spellings of the chain of calls by unfolding the generators
      generalize s.ps.freshVar "<cond>ifthenelse_cond" = r1 at h0 ⊢
      obtain ⟨flag, p1⟩ := r1
      dsimp only at h0 ⊢
      generalize p1.freshVar "ifthenelse_result" = r2 at h0 ⊢
      obtain ⟨res, p2⟩ := r2
      dsimp only at h0 ⊢
      generalize p2.freshId "ifthenelse_cond" = r3 at h0 ⊢
      obtain ⟨ifId, p3⟩ := r3
      dsimp only at h0 ⊢
      generalize p3.freshId "ifthenelse_then" = r4 at h0 ⊢
      obtain ⟨thenId, p4⟩ := r4
      dsimp only at h0 ⊢
      generalize p4.freshId "ifthenelse_else" = r5 at h0 ⊢
      obtain ⟨elseId, p5⟩ := r5
      dsimp only at h0 ⊢
      have cT : Carries cond (flatAnd cond (.var flag)) := Carries.pos _ Carries.same
      have cE : Carries cond (flatAnd cond (.lnot (.var flag))) := Carries.neg _ Carries.same
      refine Trace.emit _ ?_ cE
      refine Trace.trans ?_ (Trace.weaken cE (mapE_trace .ite _ _ e ⟨_, []⟩))
      refine Trace.emit _ ?_ cT
      refine Trace.trans ?_ (Trace.weaken cT (mapE_trace .ite _ _ t ⟨_, []⟩))
      refine Trace.emit _ ?_ Carries.same
      exact h0.trans (mapE_trace .ite cond deps c ⟨_, []⟩)
    | fai | fci =>
      rw [mapE]
      · exact ((mapE_trace _ cond deps c s).trans (mapE_trace _ cond deps t _)).trans (mapE_trace _ cond deps e _)
      · intro h; cases h
termination_by structural e
theorem mapL_trace (m : Mode) (cond : Expr) (deps : List (List Char)) (l : List Expr) (s : MS) :
    Trace cond s.ps (mapL m cond deps l s).2.ps :=
  match l, s with
  | [], s => by rw [mapL]; exact Trace.refl _
  | c :: cs, s => by rw [mapL]; exact (mapE_trace m cond deps c s).trans (mapL_trace m cond deps cs _)
termination_by structural l
theorem mapK_trace (m : Mode) (cond : Expr) (deps : List (List Char)) (l : List (Name × Expr)) (s : MS) :
    Trace cond s.ps (mapK m cond deps l s).2.ps :=
  match l, s with
  | [], s => by rw [mapK]; exact Trace.refl _
  | (k, c) :: cs, s => by rw [mapK]; exact (mapE_trace m cond deps c s).trans (mapK_trace m cond deps cs _)
termination_by structural l
theorem isoL_trace (cond : Expr) (deps : List (List Char)) (l : List Expr) (s : MS) :
    Trace cond s.ps (isoL cond deps l s).2.ps :=
  match l, s with
  | [], s => by rw [isoL]; exact Trace.refl _
  | c :: cs, s => by
    rw [isoL]
    cases isVar c with
    | true => exact isoL_trace cond deps cs s
    | false =>
      simp only [cond_false]
      have h1 : Trace cond s.ps ((s.ps.freshVar "tmp").2.freshId "tmp").2 := Trace.fi _ (Trace.fv _ (Trace.refl _))
      refine Trace.trans ?_ (isoL_trace cond deps cs ⟨_, _⟩)
      refine Trace.emit _ ?_ Carries.same
      exact h1.trans (mapE_trace .fai cond deps c ⟨_, []⟩)
termination_by structural l
theorem isoK_trace (cond : Expr) (deps : List (List Char)) (l : List (Name × Expr)) (s : MS) :
    Trace cond s.ps (isoK cond deps l s).2.ps :=
  match l, s with
  | [], s => by rw [isoK]; exact Trace.refl _
  | (k, c) :: cs, s => by
    rw [isoK]
    cases isVar c with
    | true => exact isoK_trace cond deps cs s
    | false =>
      simp only [cond_false]
      have h1 : Trace cond s.ps ((s.ps.freshVar "tmp").2.freshId "tmp").2 := Trace.fi _ (Trace.fv _ (Trace.refl _))
      refine Trace.trans ?_ (isoK_trace cond deps cs ⟨_, _⟩)
      refine Trace.emit _ ?_ Carries.same
      exact h1.trans (mapE_trace .fai cond deps c ⟨_, []⟩)
termination_by structural l
end

end Dagrt.Passes
