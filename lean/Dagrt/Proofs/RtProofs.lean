import Dagrt.Model.RtKinds
import Dagrt.Proofs.Unify
import Dagrt.Proofs.KindLoopProofs
/-!
C09: the kind inferred for an expression describes the run-time kind of its value (`infer_sound`).
First what `compat` needs of values (closed under `Rt.arith` at a kind, monotone in the kind), then the
hypotheses of the theorem (`good`, `TableCompat`, `RegSound`), then one value lemma per operator and
the mutual induction over the rules.
-/
namespace Dagrt.Kinds
open Dagrt

theorem compat_arith_closed (a b : Rt) (k : Kind) (ha : compat a k = true) (hb : compat b k = true)
    (hk : k ≠ .boolean) : compat (a.arith b) k = true := by
  -- what `compat` allows for `a` and `b` first, `Rt.arith` (26 overlapping rows) on the few pairs left
  cases k <;> cases a <;> simp only [compat, Bool.false_eq_true] at ha <;> cases b <;>
    simp only [compat, Bool.false_eq_true] at hb <;> simp_all [compat, Rt.arith] <;> grind

theorem compat_le (v : Rt) (k k' : Kind) (hc : compat v k = true) (hle : le (some k) (some k')) :
    compat v k' = true := by
  cases k <;> cases k' <;> simp [le, unify] at hle <;> cases v <;> simp_all [compat] <;> grind

theorem compat_int {k : Kind} (h : k ≠ .boolean) : compat .int k = true := by
  cases k <;> simp_all [compat]

theorem unifyK_ne_boolean {ka kb k : Kind} (h : unifyK ka kb = .ok k) : k ≠ .boolean := by
  cases ka <;> cases kb <;> simp only [unifyK, unify] at h <;> grind

theorem compat_arith (a b : Rt) (ka kb k : Kind) (ha : compat a ka = true) (hb : compat b kb = true)
    (hu : unifyK ka kb = .ok k) : compat (a.arith b) k = true :=
  have hu' := (unifyK_ok _ _ _).mp hu
  -- both values are of the kind the unification gives
  compat_arith_closed a b k (compat_le a ka k ha (unify_upper_left _ _ _ hu'))
    (compat_le b kb k hb (unify_upper_right _ _ _ hu')) (unifyK_ne_boolean hu)

def isOk {α} : Except KErr α → Bool | .ok _ => true | .error _ => false

/-! "well-typed at run time and fully inferred": every sub-expression the mapper looks at gets a
    kind, nothing raises at run time, and a quotient is not of integer kind (Python's true division
    of two ints is a float — a recorded finding) -/
mutual
def good (chk : Bool) (reg : Registry) (t : Table) (ph : Name) (F : RtFuns) (ρ : Name → Rt) : Expr → Bool
  | .const (.int _) => true
  | .const (.float _) => true
  | .const (.cplx _) => true
  | .const (.bool _) => true
  | .const _ => false      -- `None`, strings are given the kind Scalar(real) by `map_constant`
  | .var _ => true
  | .sum cs => goodL chk reg t ph F ρ cs && rtEval F ρ (.sum cs) != .err
  | .prod cs => goodL chk reg t ph F ρ cs && rtEval F ρ (.prod cs) != .err
  | .quot a b => good chk reg t ph F ρ a && good chk reg t ph F ρ b && rtEval F ρ (.quot a b) != .err &&
      !(rtEval F ρ a == .int && rtEval F ρ b == .int && infer chk reg t ph (.quot a b) == .ok .integer)
  | .pow a b => good chk reg t ph F ρ a && good chk reg t ph F ρ b && rtEval F ρ (.pow a b) != .err
  | .call _ args kw => goodA chk reg t ph F ρ args && goodK chk reg t ph F ρ kw
  | .sub a _ => good chk reg t ph F ρ a && rtEval F ρ (.sub a (.const .none)) != .err
  | .cmp o a b => rtEval F ρ (.cmp o a b) != .err
  | .min cs => rtEval F ρ (.min cs) != .err
  | .max cs => rtEval F ρ (.max cs) != .err
  | _ => true
def goodL (chk : Bool) (reg : Registry) (t : Table) (ph : Name) (F : RtFuns) (ρ : Name → Rt) : List Expr → Bool
  | [] => true
  | c :: cs => good chk reg t ph F ρ c && (chk || isOk (infer chk reg t ph c)) && goodL chk reg t ph F ρ cs
def goodA (chk : Bool) (reg : Registry) (t : Table) (ph : Name) (F : RtFuns) (ρ : Name → Rt) : List Expr → Bool
  | [] => true
  | c :: cs => good chk reg t ph F ρ c && goodA chk reg t ph F ρ cs
def goodK (chk : Bool) (reg : Registry) (t : Table) (ph : Name) (F : RtFuns) (ρ : Name → Rt) : List (Name × Expr) → Bool
  | [] => true
  | (_, c) :: cs => good chk reg t ph F ρ c && goodK chk reg t ph F ρ cs
end

/-- the table describes the current values -/
def TableCompat (t : Table) (ph : Name) (ρ : Name → Rt) : Prop :=
  ∀ x k, lookupVar t ph x = some k → compat (ρ x) k = true

def ArgsCompat : List Rt → List (Option Kind) → Prop
  | [], [] => True
  | r :: rs, k :: ks => (∀ k', k = some k' → compat r k' = true) ∧ ArgsCompat rs ks
  | _, _ => False

def KwCompat : List (Name × Rt) → List (Name × Option Kind) → Prop
  | [], [] => True
  | (n, r) :: rs, (m, k) :: ks => n = m ∧ (∀ k', k = some k' → compat r k' = true) ∧ KwCompat rs ks
  | _, _ => False

def OutCompat : List Rt → List Kind → Prop
  | [], [] => True
  | r :: rs, k :: ks => compat r k = true ∧ OutCompat rs ks
  | _, _ => False

/-- the declared result kinds of every registered function describe what it returns -/
def RegSound (reg : Registry) (F : RtFuns) : Prop :=
  ∀ f fn chk rs ks rkw kkw out, reg f = some fn → ArgsCompat rs ks → KwCompat rkw kkw → fn chk ks kkw = .ok out →
    OutCompat (F f rs rkw) out

/-- accumulated value vs. accumulated kind in the sum / product loops (`None` ↔ the int start value) -/
def CompatAcc (r : Rt) : Option Kind → Prop
  | none => r = .int
  | some k => compat r k = true

theorem arith_err_left (b : Rt) : Rt.err.arith b = .err := by cases b <;> rfl

theorem rtFold_err (F : RtFuns) (ρ : Name → Rt) : ∀ cs, rtFold F ρ .err cs = .err := by
  intro cs
  induction cs with
  | nil => rfl
  | cons c cs ih => simp only [rtFold, arith_err_left]; exact ih

theorem ord_compat (a b : Rt) (h : a.ord b ≠ .err) : compat (a.ord b) (.scalar true) = true := by
  cases a <;> cases b <;> simp_all [Rt.ord, compat]

theorem arith_eq_int (a b : Rt) (h : a.arith b = .int) : a = .int ∧ b = .int := by
  cases a <;> cases b <;> simp [Rt.arith] at h ⊢
  split at h <;> cases h

/-- true division only turns an int into a real, which every kind but Integer that accepts the int accepts -/
theorem compat_div (x y : Rt) (k : Kind) (h : compat (x.arith y) k = true)
    (hk : x.arith y = .int → k ≠ .integer) : compat (x.div y) k = true := by
  unfold Rt.div
  cases hr : x.arith y with
  | int => rw [hr] at h; cases k <;> simp_all [compat]
  | _ => rw [hr] at h; exact h

theorem rtFold1_compat (F : RtFuns) (ρ : Name → Rt) (cs : List Expr) (h : rtFold1 F ρ cs ≠ .err) :
    compat (rtFold1 F ρ cs) (.scalar true) = true := by
  match cs with
  | [] => simp [rtFold1] at h
  | [c] => simp only [rtFold1] at h ⊢; exact ord_compat _ _ h
  | c :: d :: ds => simp only [rtFold1] at h ⊢; exact ord_compat _ _ h

theorem compat_sub {v : Rt} {ka : Kind} {r : Bool} (hc : compat v ka = true) (hr : isRealValued ka = .ok r)
    (hne : (match v with | .arr c => bif c then Rt.cplx else .real | _ => .err) ≠ .err) :
    compat (match v with | .arr c => bif c then Rt.cplx else .real | _ => .err) (.scalar r) = true := by
  cases v with
  | arr c =>
    clear hne
    cases ka <;> simp only [compat, Bool.false_eq_true] at hc
    cases hr
    cases c <;> simp_all [compat]
  | _ => exact absurd rfl hne

theorem compatAcc_step {r v : Rt} {acc acc' : Option Kind} {kc : Kind} (hc : CompatAcc r acc ∨ r = .err)
    (cc : compat v kc = true) (hu : unify acc (some kc) = .ok acc') :
    CompatAcc (r.arith v) acc' ∨ r.arith v = .err := by
  rcases hc with hc | rfl
  · cases acc with
    | none =>
      cases hc
      simp at hu; subst hu
      by_cases hb : kc = .boolean
      · right; subst hb; cases v <;> simp_all [compat, Rt.arith]
      · exact .inl (compat_arith_closed _ _ kc (compat_int hb) cc hb)
    | some ka =>
      obtain ⟨k', rfl⟩ := unify_some_isSome ka kc acc' hu
      exact .inl (compat_arith _ _ ka kc k' hc cc ((unifyK_ok _ _ _).mpr hu))
  · exact .inr (arith_err_left _)

/-- a product's children all have kinds; a sum with such children is inferred the same way -/
theorem inferSum_of_inferProd (chk : Bool) (reg : Registry) (t : Table) (ph : Name) :
    ∀ (cs : List Expr) (acc res : Option Kind), inferProd chk reg t ph cs acc = .ok res →
      inferSum chk reg t ph cs acc = .ok res := by
  intro cs
  induction cs with
  | nil => intro acc res h; simpa [inferProd, inferSum] using h
  | cons c cs ih =>
    intro acc res h
    simp only [inferProd] at h
    simp only [inferSum]
    cases hi : infer chk reg t ph c with
    | error e => simp [hi] at h
    | ok k =>
      simp only [hi] at h ⊢
      cases hu : unify acc (some k) with
      | error e => simp [hu] at h
      | ok a => simp only [hu] at h ⊢; exact ih a res h

theorem inferSum_of_node {chk : Bool} {reg : Registry} {t : Table} {ph : Name} {e : Expr} {cs : List Expr} {k : Kind}
    (he : e = .sum cs ∨ e = .prod cs) (h : infer chk reg t ph e = .ok k) :
    inferSum chk reg t ph cs none = .ok (some k) := by
  rcases he with rfl | rfl <;> simp only [infer] at h <;> split at h <;> try cases h
  · assumption
  · exact inferSum_of_inferProd chk reg t ph cs none _ ‹_›

mutual
theorem infer_sound (chk : Bool) (reg : Registry) (t : Table) (ph : Name) (F : RtFuns) (ρ : Name → Rt)
    (hT : TableCompat t ph ρ) (hR : RegSound reg F) :
    ∀ (e : Expr) (k : Kind), good chk reg t ph F ρ e = true → infer chk reg t ph e = .ok k →
      compat (rtEval F ρ e) k = true
  | .const c, k, _, h => by
    cases c <;> simp [good] at * <;> simp [infer] at h <;> subst h <;> simp [rtEval, compat]
  | .var x, k, _, h => by
    simp only [infer] at h
    split at h
    · rename_i k' hl; simp at h; subst h; simp only [rtEval]; exact hT x k' hl
    · cases h
  | .sum cs, k, hg, h | .prod cs, k, hg, h => by
    simp only [good, Bool.and_eq_true, bne_iff_ne, ne_eq, rtEval] at hg
    simp only [rtEval]
    exact (inferSum_sound chk reg t ph F ρ hT hR cs none .int (some k) hg.1
      (inferSum_of_node (by simp) h) (Or.inl rfl)).resolve_right hg.2
  | .quot a b, k, hg, h => by
    simp only [good, Bool.and_eq_true, bne_iff_ne, ne_eq, Bool.not_eq_true'] at hg
    obtain ⟨⟨⟨ga, gb⟩, _⟩, hq⟩ := hg
    obtain ⟨ka, kb, ha, hb, hu⟩ := infer_quot_ok h
    have car := compat_arith _ _ ka kb k (infer_sound chk reg t ph F ρ hT hR a ka ga ha)
      (infer_sound chk reg t ph F ρ hT hR b kb gb hb) hu
    simp only [rtEval]
    -- both operands ints: the kind is not Integer by `good`
    refine compat_div _ _ k car (fun hr hk => ?_)
    obtain ⟨ea, eb⟩ := arith_eq_int _ _ hr
    subst hk
    simp [h, ea, eb] at hq
  | .pow a b, k, hg, h => by
    simp only [good, Bool.and_eq_true, bne_iff_ne, ne_eq] at hg
    obtain ⟨ka, kb, ha, hb, hu⟩ := infer_quot_ok (infer_pow_ok h)
    simp only [rtEval]
    exact compat_arith _ _ ka kb k (infer_sound chk reg t ph F ρ hT hR a ka hg.1.1 ha)
      (infer_sound chk reg t ph F ρ hT hR b kb hg.1.2 hb) hu
  | .call f args kw, k, hg, h => by
    simp only [good, Bool.and_eq_true] at hg
    obtain ⟨fn, ak, kk, hf, hia, hik, hfn⟩ := infer_callExpr_ok h
    have a1 := inferArgs_sound chk reg t ph F ρ hT hR args ak hg.1 hia
    have a2 := inferKw_sound chk reg t ph F ρ hT hR kw kk hg.2 hik
    have ho := hR f fn chk _ _ _ _ [k] hf a1 a2 hfn
    simp only [rtEval]
    -- one result kind, hence one result
    generalize F f (rtEvalL F ρ args) (rtEvalK F ρ kw) = rs at ho ⊢
    match rs, ho with
    | [r], ho => exact ho.1
  | .sub a i, k, hg, h => by
    simp only [good, Bool.and_eq_true, bne_iff_ne, ne_eq, rtEval] at hg
    obtain ⟨ka, r, ha, hr, rfl⟩ := infer_sub_ok h
    simp only [rtEval]
    exact compat_sub (infer_sound chk reg t ph F ρ hT hR a ka hg.1 ha) hr hg.2
  | .cmp o a b, k, hg, h => by
    simp only [good, bne_iff_ne, ne_eq] at hg
    simp [infer] at h; subst h
    simp only [rtEval] at hg ⊢
    split <;> simp_all [compat]
  | .lnot a, k, _, h => by
    simp only [infer] at h
    obtain ⟨ka, _, h⟩ := bind_eq_ok h
    split at h
    · simp [throw, throwThe, MonadExceptOf.throw, bind, Except.bind] at h
    · cases h; rfl
  | .land cs, k, _, h | .lor cs, k, _, h => by
    simp only [infer] at h
    obtain ⟨_, _, h⟩ := bind_eq_ok h
    cases h
    rfl
  | .attr _ _, k, _, h | .ite _ _ _, k, _, h => by simp [infer] at h
  | .min cs, k, hg, h | .max cs, k, hg, h => by
    simp only [good, bne_iff_ne, ne_eq, rtEval] at hg
    simp [infer] at h; subst h
    exact rtFold1_compat F ρ cs hg
theorem inferSum_sound (chk : Bool) (reg : Registry) (t : Table) (ph : Name) (F : RtFuns) (ρ : Name → Rt)
    (hT : TableCompat t ph ρ) (hR : RegSound reg F) :
    ∀ (cs : List Expr) (acc : Option Kind) (r : Rt) (res : Option Kind), goodL chk reg t ph F ρ cs = true →
      inferSum chk reg t ph cs acc = .ok res → (CompatAcc r acc ∨ r = .err) →
      (CompatAcc (rtFold F ρ r cs) res ∨ rtFold F ρ r cs = .err)
  | [], acc, r, res, _, h, hc => by
    simp [inferSum] at h; subst h; simpa [rtFold] using hc
  | c :: cs, acc, r, res, hg, h, hc => by
    simp only [goodL, Bool.and_eq_true] at hg
    obtain ⟨⟨gc, hok⟩, gcs⟩ := hg
    simp only [inferSum] at h
    cases hi : infer chk reg t ph c with
    | error e =>
      cases chk with
      | false => simp [hi, isOk] at hok
      | true =>
        simp only [hi] at h
        split at h
        · simp at h
        · cases h
        · rename_i heq; cases heq
    | ok kc =>
      simp only [hi] at h
      have cc := infer_sound chk reg t ph F ρ hT hR c kc gc hi
      cases hu : unify acc (some kc) with
      | error e => simp [hu] at h
      | ok acc' =>
        simp only [hu] at h
        simp only [rtFold]
        exact inferSum_sound chk reg t ph F ρ hT hR cs acc' _ res gcs h (compatAcc_step hc cc hu)
theorem inferArgs_sound (chk : Bool) (reg : Registry) (t : Table) (ph : Name) (F : RtFuns) (ρ : Name → Rt)
    (hT : TableCompat t ph ρ) (hR : RegSound reg F) :
    ∀ (cs : List Expr) (ks : List (Option Kind)), goodA chk reg t ph F ρ cs = true →
      inferArgs chk reg t ph cs = .ok ks → ArgsCompat (rtEvalL F ρ cs) ks
  | [], ks, _, h => by simp [inferArgs] at h; subst h; simp [rtEvalL, ArgsCompat]
  | c :: cs, ks, hg, h => by
    simp only [goodA, Bool.and_eq_true] at hg
    rw [inferArgs_cons] at h
    obtain ⟨a, ha, h⟩ := bind_eq_ok h
    obtain ⟨r, hr, h⟩ := bind_eq_ok h
    cases h
    refine ⟨fun k' hk' => ?_, inferArgs_sound chk reg t ph F ρ hT hR cs r hg.2 hr⟩
    rcases argKind_ok ha with ⟨_, h0⟩ | ⟨k, hi, h1⟩
    · cases h0.symm.trans hk'
    · cases h1.symm.trans hk'
      exact infer_sound chk reg t ph F ρ hT hR c k' hg.1 hi
theorem inferKw_sound (chk : Bool) (reg : Registry) (t : Table) (ph : Name) (F : RtFuns) (ρ : Name → Rt)
    (hT : TableCompat t ph ρ) (hR : RegSound reg F) :
    ∀ (cs : List (Name × Expr)) (ks : List (Name × Option Kind)), goodK chk reg t ph F ρ cs = true →
      inferKw chk reg t ph cs = .ok ks → KwCompat (rtEvalK F ρ cs) ks
  | [], ks, _, h => by simp [inferKw] at h; subst h; simp [rtEvalK, KwCompat]
  | (n, c) :: cs, ks, hg, h => by
    simp only [goodK, Bool.and_eq_true] at hg
    rw [inferKw_cons] at h
    obtain ⟨a, ha, h⟩ := bind_eq_ok h
    obtain ⟨r, hr, h⟩ := bind_eq_ok h
    cases h
    refine ⟨rfl, fun k' hk' => ?_, inferKw_sound chk reg t ph F ρ hT hR cs r hg.2 hr⟩
    rcases argKind_ok ha with ⟨_, h0⟩ | ⟨k, hi, h1⟩
    · cases h0.symm.trans hk'
    · cases h1.symm.trans hk'
      exact infer_sound chk reg t ph F ρ hT hR c k' hg.1 hi
end

theorem inferProd_sound (chk : Bool) (reg : Registry) (t : Table) (ph : Name) (F : RtFuns) (ρ : Name → Rt)
    (hT : TableCompat t ph ρ) (hR : RegSound reg F) :
    ∀ (cs : List Expr) (acc : Option Kind) (r : Rt) (res : Option Kind), goodL chk reg t ph F ρ cs = true →
      inferProd chk reg t ph cs acc = .ok res → (CompatAcc r acc ∨ r = .err) →
      (CompatAcc (rtFold F ρ r cs) res ∨ rtFold F ρ r cs = .err) :=
  fun cs acc r res hg h => inferSum_sound chk reg t ph F ρ hT hR cs acc r res hg
    (inferSum_of_inferProd chk reg t ph cs acc res h)

end Dagrt.Kinds
