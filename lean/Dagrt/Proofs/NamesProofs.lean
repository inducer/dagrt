import Dagrt.Model.Names
import Dagrt.Proofs.StrLemmas
/-!
Proof side of C13; C07 and the fusion proofs use it too.  `call_cases` and `getOrMake_cases` are the
characterisations through which the other proofs see a successful `Gen.call` / `getOrMake` (`gen_total`,
the other direction, unfolds `Gen.call` once more).  `Handed` and `Since` are what a user of a generator
carries along.  Then: the search always succeeds (pigeonhole over the numbered candidates), the shape of
generated names, the Python keyword table.
-/
namespace Dagrt.Names
open Dagrt.Str

theorem fallbackName_legal : "dagrt_var".toList ≠ [] ∧ (∀ c ∈ "dagrt_var".toList, identChar c = true) ∧
    "dagrt_var".toList.head? = some 'd' := by decide

theorem searchFrom_free (g : Gen) (base : List Char) (fuel k k' : Nat) (nm : List Char)
    (h : searchFrom g base fuel k = some (k', nm)) : g.conflicting nm = false ∧ ∃ j, nm = numbered base j := by
  induction fuel generalizing k with
  | zero => cases h
  | succ fuel ih =>
    rw [searchFrom] at h
    split at h
    · exact ih (k + 1) h
    · rename_i hc
      cases h
      exact ⟨by simpa using hc, k, rfl⟩

theorem call_cases {g g' : Gen} {b nm : List Char} (h : g.call b = some (g', nm)) :
    (∃ bb k, g' = { g with counters := setCounter g.counters bb k }.addName nm) ∧
    ((nm = g.forcedPrefix ++ b ∧ g.conflicting nm = false) ∨
      ∃ base fuel c k, searchFrom g base fuel c = some (k, nm) ∧
        (base = g.forcedPrefix ++ b ∨ ∃ c', counterMatch (g.forcedPrefix ++ b) = some (base, c'))) := by
  unfold Gen.call at h
  simp only at h
  split at h
  · split at h
    · cases h
    · rename_i hs
      cases h
      exact ⟨⟨_, _, rfl⟩, .inr ⟨_, _, _, _, hs, .inl rfl⟩⟩
  · split at h
    · rename_i hm
      split at h
      · cases h
      · rename_i hs
        cases h
        exact ⟨⟨_, _, rfl⟩, .inr ⟨_, _, _, _, hs, .inr ⟨_, hm⟩⟩⟩
    · split at h
      · split at h
        · cases h
        · rename_i hs
          cases h
          exact ⟨⟨_, _, rfl⟩, .inr ⟨_, _, _, _, hs, .inl rfl⟩⟩
      · rename_i hc
        cases h
        exact ⟨⟨_, 0, rfl⟩, .inl ⟨rfl, by simpa using hc⟩⟩

theorem gen_call_caseless {g g' : Gen} {b nm : List Char} (h : g.call b = some (g', nm)) :
    g'.caseless = g.caseless := by
  obtain ⟨⟨_, _, rfl⟩, _⟩ := call_cases h
  rfl

theorem gen_fresh (g g' : Gen) (b nm : List Char) (h : g.call b = some (g', nm)) :
    g.conflicting nm = false ∧ g'.conflicting nm = true ∧ (∀ m, g.conflicting m = true → g'.conflicting m = true) := by
  obtain ⟨⟨bb, k, rfl⟩, hnm⟩ := call_cases h
  refine ⟨?_, ?_, fun m hm => ?_⟩
  · rcases hnm with ⟨_, hfree⟩ | ⟨_, _, _, _, hs, _⟩
    · exact hfree
    · exact (searchFrom_free g _ _ _ _ _ hs).1
  · simp [Gen.addName, Gen.conflicting, Gen.norm]
  · simp only [Gen.addName, Gen.conflicting, Gen.norm, List.contains_cons] at hm ⊢
    rw [hm, Bool.or_true]

/-- every identifier in the map is known to the generator, and no two keys share one (compared
    the way the generator compares: case-folded for Fortran) -/
structure MapInv (m : KeyMap) (g : Gen) : Prop where
  known : ∀ k n, (k, n) ∈ m → g.conflicting n = true
  inj : ∀ k1 n1 k2 n2, (k1, n1) ∈ m → (k2, n2) ∈ m → g.norm n1 = g.norm n2 → k1 = k2
  keys : ∀ k n1 n2, (k, n1) ∈ m → (k, n2) ∈ m → n1 = n2

theorem lookup_mem {m : KeyMap} {k : String} {n : List Char} (h : m.lookup k = some n) : (k, n) ∈ m := by
  obtain ⟨l₁, l₂, rfl, _⟩ := List.lookup_eq_some_iff.mp h
  simp

section
variable {m m' : KeyMap} {g g' : Gen} {key : String} {p : Option String} {n : List Char}

theorem getOrMake_cases (h : getOrMake m g key p = some (m', g', n)) :
    (m.lookup key = some n ∧ m' = m ∧ g' = g) ∨
    (m.lookup key = none ∧ m' = (key, n) :: m ∧ ∃ seed, g.call seed = some (g', n)) := by
  unfold getOrMake at h
  split at h
  · rename_i hl
    cases h
    exact .inl ⟨hl, rfl, rfl⟩
  · simp only at h
    split at h
    · cases h
    · rename_i hl _ _ _ hc
      cases h
      exact .inr ⟨hl, rfl, _, hc⟩

theorem getOrMake_mem (h : getOrMake m g key p = some (m', g', n)) : (key, n) ∈ m' := by
  rcases getOrMake_cases h with ⟨hl, rfl, _⟩ | ⟨_, rfl, _⟩
  · exact lookup_mem hl
  · exact List.mem_cons_self
end

theorem norm_conflicting_eq (g : Gen) (a b : List Char) (h : g.norm a = g.norm b) :
    g.conflicting a = g.conflicting b := by simp [Gen.conflicting, h]

theorem norm_ne_of_free {g : Gen} {n m : List Char} (hn : g.conflicting n = false)
    (hm : g.conflicting m = true) : g.norm m ≠ g.norm n := by
  intro e
  rw [norm_conflicting_eq g m n e, hn] at hm
  cases hm

/-- the names a generator has handed out so far: all taken, pairwise different under its comparison -/
structure Handed (g : Gen) (out : List (List Char)) : Prop where
  taken : ∀ n ∈ out, g.conflicting n = true
  nodup : (out.map g.norm).Nodup

namespace Handed
theorem call {g g' : Gen} {out : List (List Char)} {b n : List Char} (h : Handed g out)
    (hc : g.call b = some (g', n)) : Handed g' (out ++ [n]) ∧ g'.norm = g.norm := by
  obtain ⟨hfree, htaken, hmono⟩ := gen_fresh g g' b n hc
  have hnorm : g'.norm = g.norm := by
    funext x
    simp [Gen.norm, gen_call_caseless hc]
  refine ⟨⟨?_, ?_⟩, hnorm⟩
  · intro m hm
    rcases List.mem_append.mp hm with hm | hm
    · exact hmono m (h.taken m hm)
    · rw [List.mem_singleton.mp hm]
      exact htaken
  · rw [hnorm, List.map_append, List.nodup_append]
    refine ⟨h.nodup, by simp, ?_⟩
    intro a ha a' ha'
    obtain ⟨m, hm, rfl⟩ := List.mem_map.mp ha
    rw [List.mem_singleton.mp ha']
    exact norm_ne_of_free hfree (h.taken m hm)
end Handed

/-- `g` has grown out of `g0` by handing out `out`: it knows all that `g0` knew, and the names
    handed out were new to `g0` -/
structure Since (g0 g : Gen) (out : List (List Char)) : Prop extends Handed g out where
  mono : ∀ m, g0.conflicting m = true → g.conflicting m = true
  new : ∀ n ∈ out, g0.conflicting n = false

namespace Since
theorem refl (g : Gen) : Since g g [] := ⟨⟨by simp, by simp⟩, fun _ h => h, by simp⟩

theorem call {g0 g g' : Gen} {out : List (List Char)} {b n : List Char} (h : Since g0 g out)
    (hc : g.call b = some (g', n)) : Since g0 g' (out ++ [n]) := by
  obtain ⟨hfree, _, hmono⟩ := gen_fresh g g' b n hc
  refine ⟨(h.toHanded.call hc).1, fun m hm => hmono m (h.mono m hm), fun m hm => ?_⟩
  rcases List.mem_append.mp hm with hm | hm
  · exact h.new m hm
  · rw [List.mem_singleton.mp hm]
    -- `n` is free in `g`, which knows all of `g0`
    cases hcf : g0.conflicting n with
    | false => rfl
    | true =>
      rw [h.mono n hcf] at hfree
      cases hfree
end Since

theorem lowerChar_digit {c : Char} (h : c.isDigit = true) : lowerChar c = c := by
  simp only [Char.isDigit, Bool.and_eq_true, decide_eq_true_eq] at h
  -- a capital letter has code ≥ 65, a digit has code ≤ 57
  exact if_neg fun hc => absurd (UInt32.le_trans hc.1 h.2) (by decide)

theorem norm_numbered (g : Gen) (base : List Char) (k : Nat) :
    g.norm (numbered base k) = g.norm base ++ '_' :: Nat.toDigits 10 k := by
  cases hc : g.caseless with
  | false => simp [Gen.norm, hc, numbered]
  | true =>
    have hd : (Nat.toDigits 10 k).map lowerChar = (Nat.toDigits 10 k).map id :=
      List.map_congr_left fun c hc' => lowerChar_digit (Nat.isDigit_of_mem_toDigits (by decide) (by decide) hc')
    simp [Gen.norm, hc, numbered, hd, lowerChar]

theorem norm_numbered_inj (g : Gen) (base : List Char) {j k : Nat}
    (h : g.norm (numbered base j) = g.norm (numbered base k)) : j = k := by
  rw [norm_numbered, norm_numbered] at h
  exact toDigits_inj (List.cons.inj (List.append_cancel_left h)).2

theorem searchFrom_none (g : Gen) (base : List Char) (fuel k : Nat) (h : searchFrom g base fuel k = none) :
    ∀ i, i < fuel → g.conflicting (numbered base (k + i)) = true := by
  induction fuel generalizing k with
  | zero => exact fun i hi => absurd hi (Nat.not_lt_zero i)
  | succ fuel ih =>
    rw [searchFrom] at h
    split at h
    · rename_i hc
      intro i hi
      cases i with
      | zero => exact hc
      | succ i =>
        have := ih (k + 1) h i (Nat.lt_of_succ_lt_succ hi)
        rwa [Nat.add_right_comm] at this
    · cases h

/-- pigeonhole: the candidates are pairwise different, also after case folding -/
theorem searchFrom_total (g : Gen) (base : List Char) (k fuel : Nat) (hf : g.existing.length < fuel) :
    searchFrom g base fuel k ≠ none := by
  intro hs
  let cands := (List.range fuel).map fun i => g.norm (numbered base (k + i))
  have hnd : cands.Nodup :=
    List.Pairwise.map _ (fun a b hab heq => hab (Nat.add_left_cancel (norm_numbered_inj g base heq))) List.nodup_range
  have hsub : cands ⊆ g.existing := by
    intro x hx
    obtain ⟨i, hi, rfl⟩ := List.mem_map.mp hx
    exact List.contains_iff_mem.mp (searchFrom_none g base fuel k hs i (List.mem_range.mp hi))
  have := hnd.length_le_of_subset hsub
  simp [cands] at this
  omega

/-- the generator never fails ("could not find a non-conflicting name" is unreachable) -/
theorem gen_total (g : Gen) (b : List Char) : ∃ r, g.call b = some r := by
  have key : ∀ {base k}, searchFrom g base (g.existing.length + 2) k ≠ none :=
    searchFrom_total g _ _ _ (by omega)
  unfold Gen.call
  simp only
  split
  · split
    · rename_i hs
      exact absurd hs key
    · exact ⟨_, rfl⟩
  · split
    · split
      · rename_i hs
        exact absurd hs key
      · exact ⟨_, rfl⟩
    · split
      · split
        · rename_i hs
          exact absurd hs key
        · exact ⟨_, rfl⟩
      · exact ⟨_, rfl⟩

theorem counterMatch_shape {s base : List Char} {c : Nat} (h : counterMatch s = some (base, c)) :
    (∃ ds, s = base ++ '_' :: ds) ∧ ∀ x ∈ base, identChar x = true := by
  unfold counterMatch at h
  simp only at h
  split at h
  · rename_i baseRev hrest
    split at h
    · rename_i hcond
      cases h
      refine ⟨⟨(s.reverse.takeWhile isAsciiDigit).reverse, ?_⟩, ?_⟩
      · have := congrArg List.reverse (List.takeWhile_append_dropWhile (p := isAsciiDigit) (l := s.reverse))
        rw [hrest] at this
        simpa using this.symm
      · simpa using hcond.2.2
    · cases h
  · cases h

theorem numbered_append (p b : List Char) (j : Nat) : numbered (p ++ b) j = p ++ numbered b j :=
  List.append_assoc ..

theorem numbered_identChar {base : List Char} (hb : ∀ c ∈ base, identChar c = true) (j : Nat) :
    ∀ c ∈ numbered base j, identChar c = true := by
  intro c hc
  simp only [numbered, toString_toList, List.mem_append, List.mem_cons] at hc
  rcases hc with hc | rfl | hc
  · exact hb c hc
  · decide
  · -- `isAsciiDigit` is `Char.isDigit` unfolded
    have : isAsciiDigit c = true := Nat.isDigit_of_mem_toDigits (by decide) (by decide) hc
    simp [identChar, this]

theorem call_ident {g g' : Gen} {p b nm : List Char} (hp : g.forcedPrefix = p) (hu : '_' ∉ p)
    (hid : ∀ c ∈ b, identChar c = true) (h : g.call b = some (g', nm)) :
    ∃ rest, nm = p ++ rest ∧ ∀ c ∈ rest, identChar c = true := by
  subst hp
  rcases (call_cases h).2 with ⟨e, _⟩ | ⟨base, _, _, _, hs, hb⟩
  · exact ⟨_, e, hid⟩
  · obtain ⟨j, rfl⟩ := (searchFrom_free g _ _ _ _ _ hs).2
    rcases hb with rfl | ⟨c, hm⟩
    · exact ⟨_, numbered_append .., numbered_identChar hid j⟩
    · obtain ⟨⟨ds, hs⟩, hbase⟩ := counterMatch_shape hm
      -- prefix ++ b = base ++ '_' :: ds, and the prefix has no underscore: base = prefix ++ a'
      rcases List.append_eq_append_iff.mp hs with ⟨a', rfl, _⟩ | ⟨c', hl, hc'⟩
      · exact ⟨_, numbered_append .., numbered_identChar (fun c hc => hbase c (List.mem_append_right _ hc)) j⟩
      · cases c' with
        | nil =>
          cases hl.trans (List.append_nil base)
          exact ⟨_, rfl, numbered_identChar (base := []) (fun _ hc => nomatch hc) j⟩
        | cons y ys =>
          cases hc'
          exact absurd (hl ▸ List.mem_append_right base List.mem_cons_self) hu

/-- Python's `keyword.kwlist` -/
def pyKeywords : List String := ["False", "None", "True", "and", "as", "assert", "async", "await", "break",
  "class", "continue", "def", "del", "elif", "else", "except", "finally", "for", "from", "global", "if",
  "import", "in", "is", "lambda", "nonlocal", "not", "or", "pass", "raise", "return", "try", "while", "with", "yield"]

/-- one evaluation for the two facts below: decoding the 35 string literals is what costs -/
theorem keyword_facts : ∀ kw ∈ pyKeywords,
    ("local".toList.isPrefixOf kw.toList) = false ∧ kw.toList.contains '_' = false := by decide +kernel

theorem keyword_not_local : ∀ kw ∈ pyKeywords, ("local".toList.isPrefixOf kw.toList) = false :=
  fun kw h => (keyword_facts kw h).1
theorem keyword_no_underscore : ∀ kw ∈ pyKeywords, kw.toList.contains '_' = false :=
  fun kw h => (keyword_facts kw h).2

end Dagrt.Names
