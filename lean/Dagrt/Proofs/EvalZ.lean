import Dagrt.Model.Hoist
import Dagrt.Model.Match
import Dagrt.Proofs.ExprInd
/-!
The semantics `evalZ` that C17 and C18 share, the variables of an expression, and the algebra of
the two commutative-associative operators (`Match.AC`): sums and products are the fold `AC.foldV`
of the values of their operands.  `evalZ` and `vars` are in namespace `Hoist`, the algebra in
`Match`, hence the change of namespace in the middle.
-/
namespace Dagrt.Hoist
open Dagrt

/-! semantics: integers, uninterpreted function symbols (and uninterpreted non-arithmetic
    operators), sums and products as folds -/
abbrev Env := Name → Int
abbrev FunI := Name → List Int → List (Name × Int) → Int

mutual
def evalZ (ρ : Env) (F : FunI) : Expr → Int
  | .const (.int n) => n
  | .const _ => 0
  | .var x => ρ x
  | .sum cs => sumZ ρ F cs
  | .prod cs => prodZ ρ F cs
  | .quot a b => evalZ ρ F a / evalZ ρ F b
  | .pow a b => evalZ ρ F a ^ (evalZ ρ F b).toNat
  | .call f args kw => F f (evalL ρ F args) (evalK ρ F kw)
  | .sub a i => F "<sub>" [evalZ ρ F a, evalZ ρ F i] []
  | .attr a n => F ("<attr>" ++ n) [evalZ ρ F a] []
  | .cmp o a b => F ("<cmp>" ++ o) [evalZ ρ F a, evalZ ρ F b] []
  | .lnot a => F "<not>" [evalZ ρ F a] []
  | .land cs => F "<and>" (evalL ρ F cs) []
  | .lor cs => F "<or>" (evalL ρ F cs) []
  | .ite c t e => F "<if>" [evalZ ρ F c, evalZ ρ F t, evalZ ρ F e] []
  | .min cs => F "<min>" (evalL ρ F cs) []
  | .max cs => F "<max>" (evalL ρ F cs) []
def sumZ (ρ : Env) (F : FunI) : List Expr → Int
  | [] => 0
  | c :: cs => evalZ ρ F c + sumZ ρ F cs
def prodZ (ρ : Env) (F : FunI) : List Expr → Int
  | [] => 1
  | c :: cs => evalZ ρ F c * prodZ ρ F cs
def evalL (ρ : Env) (F : FunI) : List Expr → List Int
  | [] => []
  | c :: cs => evalZ ρ F c :: evalL ρ F cs
def evalK (ρ : Env) (F : FunI) : List (Name × Expr) → List (Name × Int)
  | [] => []
  | (k, c) :: cs => (k, evalZ ρ F c) :: evalK ρ F cs
end

/-! variables (not function symbols) of an expression -/
mutual
def vars : Expr → List Name
  | .const _ => []
  | .var x => [x]
  | .sum cs => varsL cs
  | .prod cs => varsL cs
  | .quot a b => vars a ++ vars b
  | .pow a b => vars a ++ vars b
  | .call _ args kw => varsL args ++ varsK kw
  | .sub a i => vars a ++ vars i
  | .attr a _ => vars a
  | .cmp _ a b => vars a ++ vars b
  | .lnot a => vars a
  | .land cs => varsL cs
  | .lor cs => varsL cs
  | .ite c t e => vars c ++ vars t ++ vars e
  | .min cs => varsL cs
  | .max cs => varsL cs
def varsL : List Expr → List Name
  | [] => []
  | c :: cs => vars c ++ varsL cs
def varsK : List (Name × Expr) → List Name
  | [] => []
  | (_, c) :: cs => vars c ++ varsK cs
end

theorem mem_varsL {x : Name} {cs : List Expr} : x ∈ varsL cs ↔ ∃ c ∈ cs, x ∈ vars c := by
  induction cs with
  | nil => simp [varsL]
  | cons c cs ih => simp [varsL, ih]

theorem mem_varsK {x : Name} {kw : List (Name × Expr)} : x ∈ varsK kw ↔ ∃ p ∈ kw, x ∈ vars p.2 := by
  induction kw with
  | nil => simp [varsK]
  | cons p kw ih => simp [varsK, ih]

end Dagrt.Hoist

namespace Dagrt.Match
open Dagrt Dagrt.Hoist

def AC.op : AC → Int → Int → Int
  | .sum => fun a b => a + b
  | .prod => fun a b => a * b
def AC.unit : AC → Int
  | .sum => 0
  | .prod => 1
def AC.foldV (k : AC) (vs : List Int) : Int := vs.foldr k.op k.unit

theorem AC.op_comm (k : AC) (a b : Int) : k.op a b = k.op b a := by
  cases k <;> simp [AC.op, Int.add_comm, Int.mul_comm]
theorem AC.op_assoc (k : AC) (a b c : Int) : k.op (k.op a b) c = k.op a (k.op b c) := by
  cases k <;> simp [AC.op, Int.add_assoc, Int.mul_assoc]
theorem AC.unit_op (k : AC) (a : Int) : k.op k.unit a = a := by
  cases k <;> simp [AC.op, AC.unit]
theorem AC.op_unit (k : AC) (a : Int) : k.op a k.unit = a := by
  cases k <;> simp [AC.op, AC.unit]

theorem AC.op_swap (k : AC) (a n p : Int) : k.op a (k.op n p) = k.op n (k.op a p) := by
  rw [← k.op_assoc, k.op_comm a n, k.op_assoc]

@[simp] theorem AC.foldV_nil (k : AC) : k.foldV [] = k.unit := rfl
@[simp] theorem AC.foldV_cons (k : AC) (a : Int) (l : List Int) : k.foldV (a :: l) = k.op a (k.foldV l) := rfl

theorem AC.foldV_append (k : AC) (a b : List Int) : k.foldV (a ++ b) = k.op (k.foldV a) (k.foldV b) := by
  induction a with
  | nil => simp [k.unit_op]
  | cons x a ih => simp [ih, k.op_assoc]

theorem AC.foldV_perm (k : AC) {a b : List Int} (h : a.Perm b) : k.foldV a = k.foldV b := by
  induction h with
  | nil => rfl
  | cons x _ ih => simp [ih]
  | swap x y l => exact k.op_swap y x _
  | trans _ _ ih1 ih2 => rw [ih1, ih2]

theorem sumZ_eq (ρ : Env) (F : FunI) (cs : List Expr) : sumZ ρ F cs = AC.foldV .sum (cs.map (evalZ ρ F)) := by
  induction cs with
  | nil => simp [sumZ, AC.unit]
  | cons c cs ih => simp [sumZ, ih, AC.op]
theorem prodZ_eq (ρ : Env) (F : FunI) (cs : List Expr) : prodZ ρ F cs = AC.foldV .prod (cs.map (evalZ ρ F)) := by
  induction cs with
  | nil => simp [prodZ, AC.unit]
  | cons c cs ih => simp [prodZ, ih, AC.op]

theorem evalZ_mk (k : AC) (ρ : Env) (F : FunI) (cs : List Expr) :
    evalZ ρ F (k.mk cs) = k.foldV (cs.map (evalZ ρ F)) := by
  cases k
  · simp [AC.mk, evalZ, sumZ_eq]
  · simp [AC.mk, evalZ, prodZ_eq]

theorem evalZ_ident (k : AC) (ρ : Env) (F : FunI) : evalZ ρ F k.ident = k.unit := by
  cases k <;> simp [AC.ident, evalZ, AC.unit]

theorem evalL_map (ρ : Env) (F : FunI) : ∀ cs : List Expr, evalL ρ F cs = cs.map (evalZ ρ F)
  | [] => rfl
  | c :: cs => by simp [evalL, evalL_map ρ F cs]

theorem evalK_map (ρ : Env) (F : FunI) : ∀ kw : List (Name × Expr),
    evalK ρ F kw = kw.map fun p => (p.1, evalZ ρ F p.2) := by
  intro kw
  induction kw with
  | nil => rfl
  | cons p kw ih => simp [evalK, ih]

end Dagrt.Match

namespace Dagrt.Hoist
open Dagrt Dagrt.Match

theorem evalZ_congr (ρ ρ' : Env) (F : FunI) (e : Expr) :
    (∀ x ∈ vars e, ρ' x = ρ x) → evalZ ρ' F e = evalZ ρ F e := by
  induction e using Expr.induction with
  | const c => intro _; cases c <;> rfl
  | var x => intro h; simp [evalZ, h x (by simp [vars])]
  | sum cs ih | prod cs ih | land cs ih | lor cs ih | min cs ih | max cs ih =>
    intro h
    have : cs.map (evalZ ρ' F) = cs.map (evalZ ρ F) :=
      List.map_congr_left fun c hc => ih c hc fun x hx => h x (mem_varsL.mpr ⟨c, hc, hx⟩)
    simp only [evalZ, sumZ_eq, prodZ_eq, evalL_map, this]
  | quot a b iha ihb | pow a b iha ihb | sub a b iha ihb | cmp o a b iha ihb =>
    intro h
    simp only [vars, List.mem_append] at h
    simp only [evalZ, iha fun x hx => h x (.inl hx), ihb fun x hx => h x (.inr hx)]
  | attr a n ih | lnot a ih => intro h; simp only [evalZ, ih h]
  | ite c t e ihc iht ihe =>
    intro h
    simp only [vars, List.mem_append] at h
    simp only [evalZ, ihc fun x hx => h x (.inl (.inl hx)), iht fun x hx => h x (.inl (.inr hx)),
      ihe fun x hx => h x (.inr hx)]
  | call f args kw iha ihk =>
    intro h
    simp only [vars, List.mem_append, mem_varsL, mem_varsK] at h
    have h1 : args.map (evalZ ρ' F) = args.map (evalZ ρ F) :=
      List.map_congr_left fun c hc => iha c hc fun x hx => h x (.inl ⟨c, hc, hx⟩)
    have h2 : (kw.map fun p => (p.1, evalZ ρ' F p.2)) = kw.map fun p => (p.1, evalZ ρ F p.2) :=
      List.map_congr_left fun p hp => by rw [ihk p hp fun x hx => h x (.inr ⟨p, hp, hx⟩)]
    simp only [evalZ, evalL_map, evalK_map, h1, h2]

theorem map_evalZ_congr (ρ ρ' : Env) (F : FunI) (cs : List Expr) (h : ∀ x ∈ varsL cs, ρ' x = ρ x) :
    cs.map (evalZ ρ' F) = cs.map (evalZ ρ F) :=
  List.map_congr_left fun c hc => evalZ_congr ρ ρ' F c fun x hx => h x (mem_varsL.mpr ⟨c, hc, hx⟩)

theorem sumZ_congr (ρ ρ' : Env) (F : FunI) : ∀ cs : List Expr, (∀ x ∈ varsL cs, ρ' x = ρ x) → sumZ ρ' F cs = sumZ ρ F cs :=
  fun cs h => by rw [sumZ_eq, sumZ_eq, map_evalZ_congr ρ ρ' F cs h]
theorem prodZ_congr (ρ ρ' : Env) (F : FunI) : ∀ cs : List Expr, (∀ x ∈ varsL cs, ρ' x = ρ x) → prodZ ρ' F cs = prodZ ρ F cs :=
  fun cs h => by rw [prodZ_eq, prodZ_eq, map_evalZ_congr ρ ρ' F cs h]
theorem evalL_congr (ρ ρ' : Env) (F : FunI) : ∀ cs : List Expr, (∀ x ∈ varsL cs, ρ' x = ρ x) → evalL ρ' F cs = evalL ρ F cs :=
  fun cs h => by rw [evalL_map, evalL_map, map_evalZ_congr ρ ρ' F cs h]
theorem evalK_congr (ρ ρ' : Env) (F : FunI) : ∀ cs : List (Name × Expr), (∀ x ∈ varsK cs, ρ' x = ρ x) → evalK ρ' F cs = evalK ρ F cs :=
  fun cs h => by
    rw [evalK_map, evalK_map]
    exact List.map_congr_left fun p hp => by
      rw [evalZ_congr ρ ρ' F p.2 fun x hx => h x (mem_varsK.mpr ⟨p, hp, hx⟩)]

end Dagrt.Hoist
