import Dagrt.Model.Builtins
/-!
What a successful `infer` of one node says about its parts (`KindInferenceMapper`'s rules read
backwards), the argument lists as sequences over `argKind`, and the two sources of a registered
function (`mkRegistry_some`).  Used by soundness (`RtProofs`),
monotonicity (`KindOrderProofs`) and the loop (`KindLoopProofs`, `CallStmtProofs`).
-/
namespace Dagrt.Kinds
open Dagrt

theorem bind_eq_ok {α β : Type} {x : Except KErr α} {f : α → Except KErr β} {b : β} (h : x >>= f = .ok b) :
    ∃ a, x = .ok a ∧ f a = .ok b := by
  cases x with
  | error e => cases h
  | ok a => exact ⟨a, rfl, h⟩

theorem inferCall_ok {chk : Bool} {reg : Registry} {t : Table} {ph f : Name} {args : List Expr}
    {kw : List (Name × Expr)} {ks : List Kind} (h : inferCall chk reg t ph f args kw = .ok ks) :
    ∃ fn ak kk, reg f = some fn ∧ inferArgs chk reg t ph args = .ok ak ∧ inferKw chk reg t ph kw = .ok kk ∧
      fn chk ak kk = .ok ks := by
  unfold inferCall at h
  split at h
  · cases h
  · obtain ⟨ak, ha, h⟩ := bind_eq_ok h
    obtain ⟨kk, hk, h⟩ := bind_eq_ok h
    refine ⟨_, ak, kk, ‹_›, ha, hk, ?_⟩
    split at h <;> cases h
    assumption

theorem infer_callExpr_ok {chk : Bool} {reg : Registry} {t : Table} {ph f : Name} {args : List Expr}
    {kw : List (Name × Expr)} {k : Kind} (h : infer chk reg t ph (.call f args kw) = .ok k) :
    ∃ fn ak kk, reg f = some fn ∧ inferArgs chk reg t ph args = .ok ak ∧ inferKw chk reg t ph kw = .ok kk ∧
      fn chk ak kk = .ok [k] := by
  simp only [infer] at h
  split at h
  · cases h
  · obtain ⟨ak, ha, h⟩ := bind_eq_ok h
    obtain ⟨kk, hk, h⟩ := bind_eq_ok h
    refine ⟨_, ak, kk, ‹_›, ha, hk, ?_⟩
    split at h <;> cases h
    assumption

theorem infer_quot_ok {chk : Bool} {reg : Registry} {t : Table} {ph : Name} {a b : Expr} {k : Kind}
    (h : infer chk reg t ph (.quot a b) = .ok k) :
    ∃ ka kb, infer chk reg t ph a = .ok ka ∧ infer chk reg t ph b = .ok kb ∧ unifyK ka kb = .ok k := by
  simp only [infer] at h
  obtain ⟨ka, ha, h⟩ := bind_eq_ok h
  obtain ⟨kb, hb, h⟩ := bind_eq_ok h
  exact ⟨ka, kb, ha, hb, h⟩

/-- a power is inferred like a quotient; check mode only adds a test of the exponent's kind -/
theorem infer_pow_ok {chk : Bool} {reg : Registry} {t : Table} {ph : Name} {a b : Expr} {k : Kind}
    (h : infer chk reg t ph (.pow a b) = .ok k) : infer chk reg t ph (.quot a b) = .ok k := by
  simp only [infer] at h ⊢
  cases chk with
  | false => simpa using h
  | true =>
    obtain ⟨_, _, h⟩ := bind_eq_ok h
    split at h
    · exact h
    · exact h
    · simp [throw, throwThe, MonadExceptOf.throw, bind, Except.bind] at h

theorem infer_sub_ok {chk : Bool} {reg : Registry} {t : Table} {ph : Name} {a i : Expr} {k : Kind}
    (h : infer chk reg t ph (.sub a i) = .ok k) :
    ∃ ka r, infer chk reg t ph a = .ok ka ∧ isRealValued ka = .ok r ∧ k = .scalar r := by
  simp only [infer] at h
  obtain ⟨ka, ha, h⟩ := bind_eq_ok h
  have h : (do let r ← isRealValued ka; Except.ok (Kind.scalar r)) = .ok k := by
    split at h
    · split at h
      · exact h
      · simp [throw, throwThe, MonadExceptOf.throw, bind, Except.bind] at h
    · exact h
  obtain ⟨r, hr, h⟩ := bind_eq_ok h
  cases h
  exact ⟨ka, r, ha, hr, rfl⟩

/-- the kind of a child that may be left out: "unable" is no kind yet -/
def argKind : Except KErr Kind → Except KErr (Option Kind)
  | .error .unable => .ok none
  | .error e => .error e
  | .ok k => .ok (some k)

theorem argKind_ok {y : Except KErr Kind} {b : Option Kind} (h : argKind y = .ok b) :
    (y = .error .unable ∧ b = none) ∨ ∃ k, y = .ok k ∧ b = some k := by
  cases y with
  | ok k => simpa [argKind, eq_comm] using h
  | error e => cases e <;> simp_all [argKind]

theorem inferArgs_cons (chk : Bool) (reg : Registry) (t : Table) (ph : Name) (c : Expr) (cs : List Expr) :
    inferArgs chk reg t ph (c :: cs) =
      argKind (infer chk reg t ph c) >>= fun a => inferArgs chk reg t ph cs >>= fun r => .ok (a :: r) := by
  simp only [inferArgs]
  cases infer chk reg t ph c with
  | error e => cases e <;> rfl
  | ok k => rfl

theorem inferKw_cons (chk : Bool) (reg : Registry) (t : Table) (ph : Name) (n : Name) (c : Expr) (cs : List (Name × Expr)) :
    inferKw chk reg t ph ((n, c) :: cs) =
      argKind (infer chk reg t ph c) >>= fun a => inferKw chk reg t ph cs >>= fun r => .ok ((n, a) :: r) := by
  simp only [inferKw]
  cases infer chk reg t ph c with
  | error e => cases e <;> rfl
  | ok k => rfl

/-- one step along a chain `if c then some a else …` (the shape of `builtin`), for a property `Q` of the value found -/
theorem ite_some_elim {α : Type} {Q : α → Prop} {c : Prop} [Decidable c] {a x : α} {rest : Option α}
    (h : (if c then some a else rest) = some x) (ha : c → Q a) (hr : ¬c → rest = some x → Q x) : Q x := by
  by_cases hc : c
  · rw [if_pos hc] at h; cases h; exact ha hc
  · rw [if_neg hc] at h; exact hr hc h

theorem mkRegistry_some {fixed : List (Name × List Kind)} {f : Name}
    {fn : Bool → List (Option Kind) → List (Name × Option Kind) → Except KErr (List Kind)}
    (h : mkRegistry fixed f = some fn) :
    builtin f = some fn ∨ ∃ ks, fixed.lookup f = some ks ∧ fn = fun _ _ _ => .ok ks := by
  unfold mkRegistry at h
  split at h
  · exact .inl (h ▸ ‹_›)
  · split at h <;> cases h
    exact .inr ⟨_, ‹_›, rfl⟩

end Dagrt.Kinds
