import Dagrt.Proofs.SemProofs
import Dagrt.Proofs.NamesProofs
/-!
Facts about the fusion model for C16 (and `depVars_rename` for C19), in three groups: renaming
commutes with the variable sets (`usedIdents_rename`); the substitution of `disambiguate` - its keys,
that its replacements are new and pairwise different, hence `applySubst` injective off the
replacements (`disambiguate_ok`, `applySubst_cases`, `applySubst_injOn`); the new statement ids and
translated dependencies of a successful `fuse` (`fuse_shape`).  Both generator loops are read through
`Names.Since`.
-/
namespace Dagrt.Fuse
open Dagrt Dagrt.Sem Dagrt.Names

theorem flatMap_congr_left {α β : Type} {l : List α} {f g : α → List β} (h : ∀ a ∈ l, f a = g a) :
    l.flatMap f = l.flatMap g := by
  rw [List.flatMap_def, List.flatMap_def, List.map_congr_left h]

theorem depVarsL_rename_of (ρ : Name → Name) (cs : List Expr)
    (h : ∀ c ∈ cs, depVars (renameExpr ρ c) = (depVars c).map ρ) : depVarsL (renameL ρ cs) = (depVarsL cs).map ρ := by
  rw [renameL_eq_map, depVarsL_eq_flatMap, depVarsL_eq_flatMap, List.flatMap_map, List.map_flatMap]
  exact flatMap_congr_left h

theorem depVarsK_rename_of (ρ : Name → Name) (kw : List (Name × Expr))
    (h : ∀ p ∈ kw, depVars (renameExpr ρ p.2) = (depVars p.2).map ρ) : depVarsK (renameK ρ kw) = (depVarsK kw).map ρ := by
  rw [renameK_eq_map, depVarsK_eq_flatMap, depVarsK_eq_flatMap, List.flatMap_map, List.map_flatMap]
  exact flatMap_congr_left h

theorem depVars_rename (ρ : Name → Name) (e : Expr) : depVars (renameExpr ρ e) = (depVars e).map ρ := by
  induction e using Expr.induction with
  | const c | var x => rfl
  | sum cs ih | prod cs ih | land cs ih | lor cs ih | min cs ih | max cs ih => exact depVarsL_rename_of ρ cs ih
  | quot a b iha ihb | pow a b iha ihb | sub a b iha ihb | cmp _ a b iha ihb =>
    simp only [renameExpr, depVars, iha, ihb, List.map_append]
  | attr a _ iha | lnot a iha => exact iha
  | call g args kw iha ihk =>
    simp only [renameExpr, depVars, depVarsL_rename_of ρ args iha, depVarsK_rename_of ρ kw ihk, List.map_append]
  | ite c t e ihc iht ihe => simp only [renameExpr, depVars, ihc, iht, ihe, List.map_append]

theorem depVarsL_rename (ρ : Name → Name) (cs : List Expr) : depVarsL (renameL ρ cs) = (depVarsL cs).map ρ :=
  depVarsL_rename_of ρ cs fun c _ => depVars_rename ρ c

theorem depVarsK_rename (ρ : Name → Name) (kw : List (Name × Expr)) : depVarsK (renameK ρ kw) = (depVarsK kw).map ρ :=
  depVarsK_rename_of ρ kw fun p _ => depVars_rename ρ p.2

theorem loopVars_rename (ρ : Name → Name) (l : List (Name × Expr × Expr)) :
    loopVars (renameLoops ρ l) = (loopVars l).map ρ := by
  induction l with
  | nil => rfl
  | cons p r ih => simp only [renameLoops, loopVars, depVars_rename, ih, List.map_append]

theorem declReads_rename (ρ : Name → Name) (s : Stmt) : declReads (renameStmt ρ s) = (declReads s).map ρ := by
  obtain ⟨c, k⟩ := s
  cases k with
  | assign lhs sub rhs loops =>
    cases sub <;> simp [renameStmt, declReads, depVars_rename, loopVars_rename, List.map_append]
  | callAssign lhs f args kw => simp [renameStmt, declReads, depVars_rename, depVarsL_rename, depVarsK_rename]
  | yield _ _ _ _ | raise _ | fail | switch _ | nop => simp [renameStmt, declReads, depVars_rename]

theorem declWrites_rename (ρ : Name → Name) (s : Stmt) : declWrites (renameStmt ρ s) = (declWrites s).map ρ := by
  obtain ⟨c, k⟩ := s
  cases k <;> simp [renameStmt, declWrites]

theorem usedIdents_rename (ρ : Name → Name) (B : List FStmt) :
    usedIdents (B.map fun b => { b with stmt := renameStmt ρ b.stmt }) = (usedIdents B).map ρ := by
  induction B with
  | nil => rfl
  | cons b bs ih =>
    simp only [usedIdents, List.map_cons, List.flatMap_cons, List.map_append] at ih ⊢
    rw [ih, declReads_rename, declWrites_rename]

theorem disambiguate_since (pred : Name → Bool) (g0 : Gen) :
    ∀ (clash : List Name) (g : Gen) (acc res : List (Name × Name)), Since g0 g (acc.map (·.2.toList)) →
      disambiguate pred clash g acc = some res →
      res.map Prod.fst = acc.map Prod.fst ++ clash.filter pred ∧ ∃ g', Since g0 g' (res.map (·.2.toList)) := by
  intro clash
  induction clash with
  | nil =>
    intro g acc res hi h
    cases h
    exact ⟨by simp, g, hi⟩
  | cons c cs ih =>
    intro g acc res hi h
    unfold disambiguate at h
    split at h
    · rename_i hp
      split at h
      · rename_i g' n hc
        obtain ⟨hk, hs⟩ := ih g' _ res (by simpa using hi.call hc) h
        exact ⟨by simp [hk, List.filter_cons_of_pos hp], hs⟩
      · cases h
    · rename_i hp
      obtain ⟨hk, hs⟩ := ih g acc res hi h
      exact ⟨by rw [hk, List.filter_cons_of_neg hp], hs⟩

theorem nodup_of_map {α β : Type} (f : α → β) {l : List α} (h : (l.map f).Nodup) : l.Nodup :=
  List.Pairwise.of_map f (fun _ _ hne e => hne (congrArg f e)) h

/-- the substitution `disambiguate_identifiers` builds: keys = the selected clash names,
    replacements new to the generator it started with and pairwise different -/
theorem disambiguate_ok {pred : Name → Bool} {clash : List Name} {g0 : Gen} {sub : List (Name × Name)}
    (h : disambiguate pred clash g0 [] = some sub) :
    sub.map Prod.fst = clash.filter pred ∧ (∀ p ∈ sub, g0.conflicting p.2.toList = false) ∧
      (sub.map Prod.snd).Nodup := by
  obtain ⟨hk, g', hs⟩ := disambiguate_since pred g0 clash g0 [] sub (by simpa using Since.refl g0) h
  refine ⟨by simpa using hk, fun p hp => hs.new _ (List.mem_map_of_mem hp), ?_⟩
  have : ((sub.map Prod.snd).map String.toList).Nodup := by
    simpa [Function.comp_def] using nodup_of_map _ hs.nodup
  exact nodup_of_map _ this

theorem applySubst_cases (sub : List (Name × Name)) (x : Name) :
    (x ∉ sub.map Prod.fst ∧ applySubst sub x = x) ∨ (x, applySubst sub x) ∈ sub := by
  unfold applySubst
  cases h : sub.lookup x with
  | none =>
    refine .inl ⟨fun hx => ?_, rfl⟩
    obtain ⟨p, hp, rfl⟩ := List.mem_map.mp hx
    simpa using List.lookup_eq_none_iff.mp h p hp
  | some v =>
    obtain ⟨l₁, l₂, rfl, _⟩ := List.lookup_eq_some_iff.mp h
    exact .inr (by simp)

theorem applySubst_of_not_key {sub : List (Name × Name)} {x : Name} (h : x ∉ sub.map Prod.fst) :
    applySubst sub x = x :=
  (applySubst_cases sub x).elim (·.2) fun hm => absurd (List.mem_map.mpr ⟨_, hm, rfl⟩) h

theorem eq_of_nodup_map {α β : Type} {f : α → β} {l : List α} (hn : (l.map f).Nodup) {p q : α}
    (hp : p ∈ l) (hq : q ∈ l) (h : f p = f q) : p = q := by
  induction l with
  | nil => cases hp
  | cons a r ih =>
    simp only [List.map_cons, List.nodup_cons] at hn
    simp only [List.mem_cons] at hp hq
    rcases hp with rfl | hp <;> rcases hq with rfl | hq
    · rfl
    · exact absurd (List.mem_map.mpr ⟨q, hq, h.symm⟩) hn.1
    · exact absurd (List.mem_map.mpr ⟨p, hp, h⟩) hn.1
    · exact ih hn.2 hp hq

theorem applySubst_injOn (sub : List (Name × Name)) (hn : (sub.map Prod.snd).Nodup) (S : List Name)
    (hfresh : ∀ p ∈ sub, p.2 ∉ S) :
    ∀ x ∈ S, ∀ y ∈ S, applySubst sub x = applySubst sub y → x = y := by
  intro x hx y hy h
  rcases applySubst_cases sub x with ⟨_, hx'⟩ | hp <;> rcases applySubst_cases sub y with ⟨_, hy'⟩ | hq
  · rw [hx', hy'] at h; exact h
  · rw [hx'] at h; exact absurd (h ▸ hx) (hfresh _ hq)
  · rw [hy'] at h; exact absurd (h ▸ hy) (hfresh _ hp)
  · exact congrArg Prod.fst (eq_of_nodup_map hn hp hq h)

theorem conflicting_iff_mem (g : Gen) (h : g.caseless = false) (n : List Char) :
    g.conflicting n = true ↔ n ∈ g.existing := by
  simp [Gen.conflicting, Gen.norm, h]

theorem renumber_since (g0 : Gen) : ∀ (bs : List FStmt) (g : Gen) (acc m : List (List Char × List Char)),
    Since g0 g (acc.map (·.2)) → renumber bs g acc = some m →
    m.map (·.1) = acc.map (·.1) ++ bs.map (·.id) ∧ ∃ g', Since g0 g' (m.map (·.2)) := by
  intro bs
  induction bs with
  | nil =>
    intro g acc m hi h
    cases h
    exact ⟨by simp, g, hi⟩
  | cons b bs ih =>
    intro g acc m hi h
    unfold renumber at h
    split at h
    · rename_i g' n hc
      obtain ⟨hk, hs⟩ := ih g' _ m (by simpa using hi.call hc) h
      exact ⟨by simp [hk], hs⟩
    · cases h

theorem zipIds_spec : ∀ (bs : List FStmt) (m : List (List Char × List Char)), m.length = bs.length →
    (zipIds bs m).map (·.id) = m.map (·.2) ∧ (zipIds bs m).map (·.stmt) = bs.map (·.stmt) ∧
    (zipIds bs m).map (·.deps) = bs.map (·.deps)
  | [], [], _ => ⟨rfl, rfl, rfl⟩
  | [], _ :: _, h => nomatch h
  | _ :: _, [], h => nomatch h
  | b :: bs, (o, n) :: ms, h => by
    obtain ⟨h1, h2, h3⟩ := zipIds_spec bs ms (Nat.succ.inj h)
    simp only [zipIds, List.map_cons, h1, h2, h3, and_self]

theorem remapAll_spec (m : List (List Char × List Char)) : ∀ (bs res : List FStmt), remapAll m bs = some res →
    res.map (·.id) = bs.map (·.id) ∧ res.map (·.stmt) = bs.map (·.stmt) ∧
    (∀ (k : Nat) (r b : FStmt), res[k]? = some r → bs[k]? = some b → remapDeps m b.deps = some r.deps) := by
  intro bs
  induction bs with
  | nil =>
    intro res h
    cases h
    exact ⟨rfl, rfl, fun k r b hk => by simp at hk⟩
  | cons b bs ih =>
    intro res h
    unfold remapAll at h
    split at h
    · rename_i d r hd hr
      rw [← Option.some.inj h]
      obtain ⟨h1, h2, h3⟩ := ih r hr
      refine ⟨by rw [List.map_cons, h1, List.map_cons], by rw [List.map_cons, h2, List.map_cons], fun k r' b' hk hb => ?_⟩
      cases k with
      | zero =>
        rw [← Option.some.inj hk, ← Option.some.inj hb]
        exact hd
      | succ k => exact h3 k r' b' hk hb
    · cases h

theorem remapDeps_spec (m : List (List Char × List Char)) : ∀ (ds res : List (List Char)), remapDeps m ds = some res →
    res.length = ds.length ∧ ∀ (k : Nat) (d r : List Char), ds[k]? = some d → res[k]? = some r → lookupId m d = some r := by
  intro ds
  induction ds with
  | nil =>
    intro res h
    cases h
    exact ⟨rfl, nofun⟩
  | cons d ds ih =>
    intro res h
    unfold remapDeps at h
    split at h
    · rename_i d' r hd hr
      cases h
      obtain ⟨h1, h2⟩ := ih r hr
      refine ⟨congrArg Nat.succ h1, fun k x y hk hr' => ?_⟩
      cases k with
      | zero =>
        cases Option.some.inj hk
        cases Option.some.inj hr'
        exact hd
      | succ k => exact h2 k x y hk hr'
    · cases h
theorem lookupId_mem (m : List (List Char × List Char)) (d r : List Char) (h : lookupId m d = some r) :
    (d, r) ∈ m := by
  unfold lookupId at h
  simp only [Option.map_eq_some_iff] at h
  obtain ⟨p, hp, he⟩ := h
  have hm := List.mem_of_find?_eq_some hp
  have hk := List.find?_some hp
  simp at hk hm
  obtain ⟨a, b⟩ := p
  simp at he hk; subst he; subst hk; exact hm

theorem fuse_some (pred : Name → Bool) (clash : List Name) (A B out : List FStmt)
    (h : fuse pred clash A B = some out) :
    ∃ sub m B2,
      disambiguate pred clash ⟨(usedIdents A ++ usedIdents B).map String.toList, [], [], false⟩ [] = some sub ∧
      renumber (B.map fun b => { b with stmt := renameStmt (applySubst sub) b.stmt }) ⟨A.map (·.id), [], [], false⟩ [] = some m ∧
      remapAll m (zipIds (B.map fun b => { b with stmt := renameStmt (applySubst sub) b.stmt }) m) = some B2 ∧
      out = A ++ B2 := by
  unfold fuse at h
  simp only at h
  split at h
  · cases h
  · rename_i sub hs
    split at h
    · cases h
    · rename_i m hm
      split at h
      · cases h
      · rename_i B2 hb
        simp at h
        exact ⟨sub, m, B2, hs, hm, hb, h.symm⟩

/-- a successful fusion: the first method's statements, then the second's under the new ids `m`
    hands out, each in its place with its dependencies translated through `m` -/
theorem fuse_shape (pred : Name → Bool) (clash : List Name) (A B out : List FStmt)
    (h : fuse pred clash A B = some out) :
    ∃ (m : List (List Char × List Char)) (B2 : List FStmt), out = A ++ B2 ∧ B2.map (·.id) = m.map (·.2) ∧
      (m.map (·.2)).Nodup ∧ (∀ p ∈ m, p.2 ∉ A.map (·.id)) ∧ m.length = B.length ∧
      ∀ (k : Nat) (r b : FStmt), B2[k]? = some r → B[k]? = some b → remapDeps m b.deps = some r.deps := by
  obtain ⟨sub, m, B2, _, hm, hb, ho⟩ := fuse_some pred clash A B out h
  obtain ⟨hk, g', hs⟩ := renumber_since ⟨A.map (·.id), [], [], false⟩ _ _ [] m (by simpa using Since.refl _) hm
  have hlen : m.length = B.length := by simpa using congrArg List.length hk
  have hz := zipIds_spec (B.map fun b => { b with stmt := renameStmt (applySubst sub) b.stmt }) m (by simpa using hlen)
  have hra := remapAll_spec m _ B2 hb
  refine ⟨m, B2, ho, by rw [hra.1, hz.1], nodup_of_map _ hs.nodup,
    fun p hp hmem => Bool.noConfusion ((hs.new _ (List.mem_map_of_mem hp)).symm.trans
      ((conflicting_iff_mem _ rfl _).mpr hmem)), hlen, fun k r b hk hbk => ?_⟩
  -- the k-th zipped statement has the dependencies of the k-th original statement
  have h1 := congrArg (·[k]?) hz.2.2
  simp only [List.getElem?_map, hbk, List.map_map, Option.map_some, Option.map_eq_some_iff] at h1
  obtain ⟨z, hz1, hz2⟩ := h1
  have := hra.2.2 k r z hk hz1
  rwa [hz2] at this

end Dagrt.Fuse
