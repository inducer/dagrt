import Dagrt.Model.Wrap
/-!
Proof side of C20, in three parts: the chunking loop of `wrap_line_base` (every token kept, no empty
line, widths); the splitter's state machine (`lexStep`/`lexRun`: a text of well-formed tokens separated
by white space re-tokenises to those tokens, `split_interleave`; every token the splitter produces is
well-formed, `split_tokens_ok`); `unwrap` of the rendered lines is such a text (`Spaced`).
-/
namespace Dagrt.Wrap

theorem chunkLoop_flatten (width il cl : Nat) : ∀ (ws cur : List Tok) (curLen : Nat) (acc : List (List Tok)),
    (chunkLoop width il cl ws cur curLen acc).flatten = acc.flatten ++ cur ++ ws := by
  intro ws
  induction ws with
  | nil => simp [chunkLoop]
  | cons w ws ih =>
    intro cur curLen acc
    unfold chunkLoop
    simp only
    split
    · rw [ih]; simp
    · rw [ih]; simp

theorem chunkLoop_nonempty (width il cl : Nat) : ∀ (ws cur : List Tok) (curLen : Nat) (acc : List (List Tok)),
    cur ≠ [] → (∀ c ∈ acc, c ≠ []) → ∀ c ∈ chunkLoop width il cl ws cur curLen acc, c ≠ [] := by
  intro ws
  induction ws with
  | nil =>
    intro cur _ acc hc ha c hmem
    simp [chunkLoop] at hmem
    rcases hmem with h | h
    · exact ha c h
    · subst h; exact hc
  | cons w ws ih =>
    intro cur curLen acc hc ha
    unfold chunkLoop
    simp only
    split
    · exact ih _ _ acc (by simp) ha
    · apply ih _ _ _ (by simp)
      intro c hmem; simp at hmem
      rcases hmem with h | h
      · exact ha c h
      · subst h; exact hc

theorem joinWords_length_snoc : ∀ (c : List Tok) (w : Tok), c ≠ [] →
    (joinWords (c ++ [w])).length = (joinWords c).length + 1 + w.length
  | [], _, h => absurd rfl h
  | [a], w, _ => by simp [joinWords]; omega
  | a :: b :: r, w, _ => by
    have ih := joinWords_length_snoc (b :: r) w (by simp)
    simp only [List.cons_append, joinWords, List.length_append, List.length_cons] at ih ⊢
    omega

/-- a finished line is "good" if, when it holds ≥ 2 tokens, it leaves room for the marker -/
def GoodInner (il pre : Nat) (width : Nat) (c : List Tok) : Prop :=
  2 ≤ c.length → il + pre + (joinWords c).length < width

/-- state invariant of the loop: `curLen` is the length of current_line (`pre` = 0 on the first
    line, else the continuation indentation, and `P` is whatever holds of both); a line with ≥ 2 tokens
    is strictly inside the width (room for the marker), or exactly at the width with no token left -/
theorem chunkLoop_width (width il cl : Nat) (P : Nat → Prop) (hcl : P cl) :
    ∀ (ws cur : List Tok) (curLen pre : Nat) (acc : List (List Tok)),
    P pre → cur ≠ [] → curLen = pre + (joinWords cur).length →
    (2 ≤ cur.length → il + curLen < width ∨ (ws = [] ∧ il + curLen = width)) →
    ∃ last more, chunkLoop width il cl ws cur curLen acc = acc ++ more ++ [last] ∧
      (∀ c ∈ more, 2 ≤ c.length → ∃ p, P p ∧ il + p + (joinWords c).length < width) ∧
      (2 ≤ last.length → ∃ p, P p ∧ il + p + (joinWords last).length ≤ width) := by
  intro ws
  induction ws with
  | nil =>
    intro cur curLen pre acc hpre hne hlen hinv
    refine ⟨cur, [], by simp [chunkLoop], by simp, fun h2 => ⟨pre, hpre, ?_⟩⟩
    rw [hlen, ← Nat.add_assoc] at hinv
    rcases hinv h2 with h | ⟨_, h⟩
    · exact Nat.le_of_lt h
    · exact Nat.le_of_eq h
  | cons w ws ih =>
    intro cur curLen pre acc hpre hne hlen hinv
    unfold chunkLoop
    simp only
    split
    · rename_i hfit
      have hl : curLen + 1 + w.length = pre + (joinWords (cur ++ [w])).length := by
        rw [joinWords_length_snoc cur w hne, hlen]; simp only [Nat.add_assoc]
      exact ih (cur ++ [w]) _ pre acc hpre
        (by simp) hl (by intro _; simpa only [Nat.add_assoc] using hfit)
    · obtain ⟨last, more, h1, h4, h5⟩ := ih [w] (cl + w.length) cl (acc ++ [cur])
        hcl (by simp) (by simp [joinWords]) (by intro h; simp at h)
      refine ⟨last, cur :: more, by simp [h1], List.forall_mem_cons.2 ⟨fun h2 => ⟨pre, hpre, ?_⟩, h4⟩, h5⟩
      rw [hlen, ← Nat.add_assoc] at hinv
      rcases hinv h2 with h | ⟨h, _⟩
      · exact h
      · cases h

/-- the lexer between two tokens: `acc` finished, nothing pending, no quote open -/
def clean (acc : List Tok) : LS := ⟨acc, [], none, false⟩

/-- a well-formed token: processed on its own from a clean state it is still pending as one
    token, with no quote open -/
def TokOK (esc : Option Char) (t : Tok) : Prop :=
  t ≠ [] ∧ lexRun esc (clean []) t = ⟨[], t, none, false⟩

/-- `lexStep` only appends to the finished tokens and never reads them (`lexStep_prepend`), so a run may
    be replayed with nothing finished and the earlier tokens put in front afterwards -/
def LS.prepend (acc : List Tok) (s : LS) : LS := { s with toks := acc ++ s.toks }

theorem lexStep_prepend (esc : Option Char) (acc : List Tok) (s : LS) (c : Char) :
    lexStep esc (s.prepend acc) c = (lexStep esc s c).prepend acc := by
  obtain ⟨toks, tok, quote, escaped⟩ := s
  show lexStep esc ⟨acc ++ toks, tok, quote, escaped⟩ c = _
  cases quote with
  | some q =>
    simp only [lexStep, apply_ite (LS.prepend acc)]
    rfl
  | none =>
    simp only [lexStep, apply_ite (LS.prepend acc)]
    simp only [LS.prepend, List.append_assoc]

theorem lexRun_prepend (esc : Option Char) (acc : List Tok) (l : List Char) (s : LS) :
    lexRun esc (s.prepend acc) l = (lexRun esc s l).prepend acc :=
  List.foldl_hom _ (lexStep_prepend esc acc)

theorem lexRun_append (esc : Option Char) (s : LS) (a b : List Char) :
    lexRun esc s (a ++ b) = lexRun esc (lexRun esc s a) b := by simp [lexRun]

theorem lexRun_tok (esc : Option Char) (acc : List Tok) {t : Tok} (h : TokOK esc t) :
    lexRun esc (clean acc) t = ⟨acc, t, none, false⟩ := by
  have : clean acc = (clean []).prepend acc := by simp [clean, LS.prepend]
  rw [this, lexRun_prepend, h.2]
  simp [LS.prepend]

def AllSpace (ws : List Char) : Prop := ∀ c ∈ ws, isSpace c = true

theorem AllSpace_replicate (n : Nat) : AllSpace (List.replicate n ' ') := by
  intro c hc; simp at hc; rw [hc.2]; decide

theorem space_not_quote {c : Char} (h : isSpace c = true) : isQuote c = false := by
  simp only [isSpace, isQuote, Bool.or_eq_true, beq_iff_eq] at h ⊢
  rcases h with ((h | h) | h) | h <;> subst h <;> decide

theorem lexRun_spaces (esc : Option Char) : ∀ (ws : List Char) (acc : List Tok), AllSpace ws →
    lexRun esc (clean acc) ws = clean acc := by
  intro ws acc h
  induction ws with
  | nil => rfl
  | cons c cs ih =>
    have hc := h c (by simp)
    simp only [lexRun, List.foldl]
    have : lexStep esc (clean acc) c = clean acc := by
      simp [lexStep, clean, space_not_quote hc, hc]
    rw [this]
    exact ih fun x hx => h x (by simp [hx])

theorem lexRun_sep (esc : Option Char) (acc : List Tok) (t : Tok) (ht : t ≠ []) :
    ∀ (ws : List Char), ws ≠ [] → AllSpace ws →
    lexRun esc ⟨acc, t, none, false⟩ ws = clean (acc ++ [t])
  | [], h, _ => absurd rfl h
  | c :: cs, _, h => by
    have hc := h c (by simp)
    simp only [lexRun, List.foldl]
    have : lexStep esc ⟨acc, t, none, false⟩ c = clean (acc ++ [t]) := by
      simp [lexStep, clean, space_not_quote hc, hc, ht]
    rw [this]
    exact lexRun_spaces esc cs _ (fun x hx => h x (by simp [hx]))

/-- text made of well-formed tokens separated by non-empty white space -/
def interleave (t0 : Tok) (rest : List (List Char × Tok)) : List Char :=
  t0 ++ rest.flatMap (fun p => p.1 ++ p.2)

theorem lexRun_interleave (esc : Option Char) : ∀ (rest : List (List Char × Tok)) (acc : List Tok) (t0 : Tok),
    TokOK esc t0 → (∀ p ∈ rest, p.1 ≠ [] ∧ AllSpace p.1 ∧ TokOK esc p.2) →
    ∃ front last, acc ++ t0 :: rest.map (·.2) = front ++ [last] ∧ last ≠ [] ∧
      lexRun esc (clean acc) (interleave t0 rest) = ⟨front, last, none, false⟩ := by
  intro rest
  induction rest with
  | nil =>
    intro acc t0 h0 _
    refine ⟨acc, t0, by simp, h0.1, ?_⟩
    simp [interleave, lexRun_tok esc acc h0]
  | cons st rest ih =>
    obtain ⟨s, t⟩ := st
    intro acc t0 h0 hr
    obtain ⟨hs1, hs2, ht⟩ := hr (s, t) (by simp)
    obtain ⟨front, last, heq, hl, hrun⟩ := ih (acc ++ [t0]) t ht fun p hp => hr p (by simp [hp])
    refine ⟨front, last, by simpa using heq, hl, ?_⟩
    have : interleave t0 ((s, t) :: rest) = t0 ++ (s ++ interleave t rest) := by
      simp [interleave]
    rw [this, lexRun_append, lexRun_tok esc acc h0, lexRun_append, lexRun_sep esc acc t0 h0.1 s hs1 hs2]
    exact hrun

theorem split_interleave (esc : Option Char) (t0 : Tok) (rest : List (List Char × Tok))
    (h0 : TokOK esc t0) (hr : ∀ p ∈ rest, p.1 ≠ [] ∧ AllSpace p.1 ∧ TokOK esc p.2) :
    split esc (interleave t0 rest) = .ok (t0 :: rest.map (·.2)) := by
  obtain ⟨front, last, heq, hl, hrun⟩ := lexRun_interleave esc rest [] t0 h0 hr
  unfold split
  have : LS.init = clean [] := rfl
  rw [this, hrun]
  simp only [if_neg hl]
  rw [← heq, List.nil_append]

/-- what holds of every state the splitter reaches.  `cur` is the point: the pending token, replayed
    on its own from a clean state, gives the pending part of the state again; so at the moment it
    is finished (white space outside quotes, or the end of the line) it is `TokOK` -/
structure LexInv (esc : Option Char) (s : LS) : Prop where
  done : ∀ t ∈ s.toks, TokOK esc t
  cur : lexRun esc (clean []) s.tok = ⟨[], s.tok, s.quote, s.escaped⟩
  esc_in_quote : s.quote = none → s.escaped = false

theorem lexInv_step (esc : Option Char) (s : LS) (c : Char) (h : LexInv esc s) : LexInv esc (lexStep esc s c) := by
  obtain ⟨toks, tok, quote, escaped⟩ := s
  obtain ⟨hd, hc, he⟩ := h
  simp only at hd hc he
  -- the pending token with one more character, processed on its own, takes the same branch
  have h1 : lexRun esc (clean []) (tok ++ [c]) = lexStep esc ⟨[], tok, quote, escaped⟩ c := by
    rw [← hc]
    simp [lexRun]
  cases quote with
  | some q =>
    simp only [lexStep] at h1 ⊢
    by_cases hesc : escaped = true
    · rw [if_pos hesc] at h1 ⊢
      exact ⟨hd, h1, by simp⟩
    · rw [if_neg hesc] at h1 ⊢
      by_cases hce : some c = esc
      · rw [if_pos hce] at h1 ⊢
        exact ⟨hd, h1, by simp⟩
      · rw [if_neg hce] at h1 ⊢
        by_cases hcq : c = q
        · rw [if_pos hcq] at h1 ⊢
          exact ⟨hd, h1, by simpa using hesc⟩
        · rw [if_neg hcq] at h1 ⊢
          exact ⟨hd, h1, by simp⟩
  | none =>
    cases he rfl
    simp only [lexStep] at h1 ⊢
    by_cases hq : isQuote c = true
    · rw [if_pos hq] at h1 ⊢
      exact ⟨hd, h1, by simp⟩
    · rw [if_neg hq] at h1 ⊢
      by_cases hsp : isSpace c = true
      · -- white space outside quotes: the pending token, if any, is finished
        rw [if_pos hsp]
        by_cases hne : tok = []
        · rw [if_pos hne]
          exact ⟨hd, hc, he⟩
        · rw [if_neg hne]
          refine ⟨?_, rfl, by simp⟩
          intro t ht
          rcases List.mem_append.mp ht with h | h
          · exact hd t h
          · rw [List.mem_singleton.mp h]
            exact ⟨hne, hc⟩
      · rw [if_neg hsp] at h1 ⊢
        exact ⟨hd, h1, by simp⟩

theorem lexInv_run (esc : Option Char) : ∀ (l : List Char) (s : LS), LexInv esc s → LexInv esc (lexRun esc s l) := by
  intro l
  induction l with
  | nil => exact fun s h => h
  | cons c cs ih => exact fun s h => ih _ (lexInv_step esc s c h)

theorem split_tokens_ok (esc : Option Char) (line : List Char) (toks : List Tok)
    (h : split esc line = .ok toks) : ∀ t ∈ toks, TokOK esc t := by
  unfold split at h
  have hinv := lexInv_run esc line LS.init ⟨by simp [LS.init], by simp [LS.init, lexRun, clean], by simp [LS.init]⟩
  simp only at h
  split at h
  · cases h
  · rename_i hq
    simp at h
    have hcur := hinv.cur
    rw [hq, hinv.esc_in_quote hq] at hcur
    intro t ht
    rw [← h] at ht
    split at ht
    · exact hinv.done t ht
    · rename_i hne
      simp at ht
      rcases ht with h' | h'
      · exact hinv.done t h'
      · subst h'; exact ⟨hne, hcur⟩

/-- joining the physical lines: every line but the last loses its continuation marker
    (Python's backslash-newline, Fortran's trailing `&`) -/
def unwrap : List (List Char) → List Char
  | [] => []
  | [l] => l
  | l :: ls => l.dropLast ++ unwrap ls

/-- `txt` is the tokens `toks` (at least one), separated by non-empty white space -/
def Spaced (txt : List Char) (toks : List Tok) : Prop :=
  ∃ t0 rest, txt = interleave t0 rest ∧ t0 :: rest.map (·.2) = toks ∧
    ∀ p ∈ rest, p.1 ≠ [] ∧ AllSpace p.1

theorem Spaced.one (t : Tok) : Spaced t [t] := ⟨t, [], by simp [interleave], rfl, by simp⟩

theorem Spaced.glue {a b : List Char} {ts us : List Tok} (ha : Spaced a ts) (hb : Spaced b us)
    (s : List Char) (hs1 : s ≠ []) (hs2 : AllSpace s) : Spaced (a ++ (s ++ b)) (ts ++ us) := by
  obtain ⟨t, r, rfl, rfl, hr⟩ := ha
  obtain ⟨t', r', rfl, rfl, hr'⟩ := hb
  refine ⟨t, r ++ (s, t') :: r', by simp [interleave], by simp, ?_⟩
  intro p hp
  rcases List.mem_append.mp hp with hp | hp
  · exact hr p hp
  · rcases List.mem_cons.mp hp with e | hp
    · rw [e]; exact ⟨hs1, hs2⟩
    · exact hr' p hp

theorem split_spaced (esc : Option Char) {txt : List Char} {toks : List Tok} (h : Spaced txt toks)
    (hok : ∀ t ∈ toks, TokOK esc t) : split esc txt = .ok toks := by
  obtain ⟨t0, rest, rfl, rfl, hsep⟩ := h
  apply split_interleave esc t0 rest (hok t0 (by simp))
  intro p hp
  exact ⟨(hsep p hp).1, (hsep p hp).2, hok p.2 (List.mem_cons_of_mem _ (List.mem_map_of_mem hp))⟩

theorem joinWords_spaced : ∀ c : List Tok, c ≠ [] → Spaced (joinWords c) c
  | [], h => absurd rfl h
  | [t], _ => Spaced.one t
  | t :: u :: us, _ =>
    (Spaced.one t).glue (joinWords_spaced (u :: us) (by simp)) [' '] (by simp) (AllSpace_replicate 1)

theorem unwrap_renderLines_cons (marker : Char) (padw : Nat) (indent : List Char) (first : Bool)
    (c c' : List Tok) (cs : List (List Tok)) :
    unwrap (renderLines marker padw indent first (c :: c' :: cs)) =
      lineText indent first c ++ (List.replicate (padw - 1 - (lineText indent first c).length) ' ' ++
        unwrap (renderLines marker padw indent false (c' :: cs))) := by
  cases cs <;> simp [renderLines, unwrap, pad]

/-- the un-wrapped text is (the first line's indentation and then) the tokens of all lines,
    separated by white space: single blanks inside a line, padding blanks and the continuation
    indentation between two lines -/
theorem unwrap_render_spaced (marker : Char) (padw : Nat) (indent : List Char)
    (hi1 : indent ≠ []) (hi2 : AllSpace indent) :
    ∀ (cs : List (List Tok)) (first : Bool), cs ≠ [] → (∀ c ∈ cs, c ≠ []) →
      ∃ txt, unwrap (renderLines marker padw indent first cs) = (bif first then [] else indent) ++ txt ∧
        Spaced txt cs.flatten
  | [], _, h, _ => absurd rfl h
  | [c], first, _, hne =>
    ⟨joinWords c, by simp [renderLines, unwrap, lineText], by simpa using joinWords_spaced c (hne c (by simp))⟩
  | c :: c' :: cs, first, _, hne => by
    obtain ⟨txt, htxt, hsp⟩ := unwrap_render_spaced marker padw indent hi1 hi2 (c' :: cs) false (by simp)
      (fun x hx => hne x (by simp [hx]))
    refine ⟨joinWords c ++ ((List.replicate (padw - 1 - (lineText indent first c).length) ' ' ++ indent) ++ txt),
      ?_, ?_⟩
    · rw [unwrap_renderLines_cons, htxt]
      simp [lineText]
    · apply (joinWords_spaced c (hne c (by simp))).glue hsp _ (by simp [hi1])
      intro x hx
      rcases List.mem_append.mp hx with hx | hx
      · exact AllSpace_replicate _ x hx
      · exact hi2 x hx

end Dagrt.Wrap
