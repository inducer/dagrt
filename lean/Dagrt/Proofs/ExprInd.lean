import Dagrt.Model.Expr
namespace Dagrt

/-- Structural induction over `Expr` with the nested lists handled once: the operand lists of
    n-ary nodes come with `∀ c ∈ cs, P c`, keyword arguments with `∀ p ∈ kw, P p.2`. -/
theorem Expr.induction {P : Expr → Prop}
    (const : ∀ c, P (.const c)) (var : ∀ x, P (.var x))
    (sum : ∀ cs, (∀ c ∈ cs, P c) → P (.sum cs))
    (prod : ∀ cs, (∀ c ∈ cs, P c) → P (.prod cs))
    (quot : ∀ a b, P a → P b → P (.quot a b))
    (pow : ∀ a b, P a → P b → P (.pow a b))
    (call : ∀ f args kw, (∀ c ∈ args, P c) → (∀ p ∈ kw, P p.2) → P (.call f args kw))
    (sub : ∀ a i, P a → P i → P (.sub a i))
    (attr : ∀ a n, P a → P (.attr a n))
    (cmp : ∀ o a b, P a → P b → P (.cmp o a b))
    (lnot : ∀ a, P a → P (.lnot a))
    (land : ∀ cs, (∀ c ∈ cs, P c) → P (.land cs))
    (lor : ∀ cs, (∀ c ∈ cs, P c) → P (.lor cs))
    (ite : ∀ c t e, P c → P t → P e → P (.ite c t e))
    (min : ∀ cs, (∀ c ∈ cs, P c) → P (.min cs))
    (max : ∀ cs, (∀ c ∈ cs, P c) → P (.max cs)) : ∀ e, P e :=
  @Expr.rec P (fun cs => ∀ c ∈ cs, P c) (fun kw => ∀ p ∈ kw, P p.2) (fun p => P p.2)
    const var sum prod quot pow call sub attr cmp lnot land lor ite min max
    (fun _ h => nomatch h) (fun _ _ hc hcs _ h => by cases h with | head => exact hc | tail _ h => exact hcs _ h)
    (fun _ h => nomatch h) (fun _ _ hp hps _ h => by cases h with | head => exact hp | tail _ h => exact hps _ h)
    (fun _ _ h => h)

end Dagrt
