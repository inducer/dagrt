import Dagrt.Model.StepLoop
import Dagrt.Proofs.BuilderProofs
/-!
C01: the flat guarded statements the builder emits, executed in program order, do what the builder
calls say block by block (`StepLoop.seqExec`) — helper lemmas.
-/
namespace Dagrt.StepLoop
open Dagrt Dagrt.Sem Dagrt.Builder

/-- the names `if_` allocates for its flags -/
def IsFlag (x : Name) : Prop := ∃ k, x = genName "<cond>" k

/-- what the program's own statements and conditions may mention: no flag names -/
def OpOK : BOp → Prop
  | .stmt k => ∀ x, IsFlag x → x ∉ effR ⟨.const (.bool true), k⟩ ∧ x ∉ effW ⟨.const (.bool true), k⟩
  | .ifBegin e => ∀ x, IsFlag x → x ∉ depVars e
  | _ => True

inductive All2 {α β : Type} (R : α → β → Prop) : List α → List β → Prop
  | nil : All2 R [] []
  | cons {a : α} {b : β} {as : List α} {bs : List β} : R a b → All2 R as bs → All2 R (a :: as) (b :: bs)

theorem All2.snoc {α β : Type} {R : α → β → Prop} {as : List α} {bs : List β} {a : α} {b : β}
    (h : All2 R as bs) (hab : R a b) : All2 R (as ++ [a]) (bs ++ [b]) := by
  induction h with
  | nil => exact All2.cons hab All2.nil
  | cons h1 _ ih => exact All2.cons h1 ih

theorem All2.reverse {α β : Type} {R : α → β → Prop} {as : List α} {bs : List β}
    (h : All2 R as bs) : All2 R as.reverse bs.reverse := by
  induction h with
  | nil => exact All2.nil
  | cons h1 _ ih => simp only [List.reverse_cons]; exact ih.snoc h1

theorem All2.length_eq {α β : Type} {R : α → β → Prop} {as : List α} {bs : List β} (h : All2 R as bs) :
    as.length = bs.length := by
  induction h with
  | nil => rfl
  | cons _ _ ih => simp [ih]

abbrev truth (F : Funs) (σ : Store) (c : Expr) : Bool := (eval F [] σ c).truthy

theorem evalAll_truthy (F : Funs) (env : List (Name × Int)) (σ : Store) : ∀ cs : List Expr,
    (evalAll F env σ cs).1.truthy = allTrue (cs.map fun c => (evalI F env σ c).1.truthy) := by
  intro cs
  induction cs with
  | nil => simp [evalAll, Val.truthy, allTrue]
  | cons c cs ih =>
    rw [evalAll]
    cases h : (evalI F env σ c).1.truthy
    · simp only [h, cond_false, List.map_cons, allTrue, Bool.false_and]; rfl
    · simp only [h, cond_true, List.map_cons, allTrue, Bool.true_and]; exact ih

theorem condOf_truth (F : Funs) (σ : Store) : ∀ cs : List Expr,
    (eval F [] σ (condOf cs)).truthy = allTrue (cs.map (truth F σ))
  | [] => by simp [condOf, eval, evalI, Val.truthy, allTrue]
  | [c] => by simp [condOf, allTrue]
  | c :: c' :: cs => by simp only [condOf, eval, evalI, evalAll_truthy]; rfl

/-- the flag of an `if_` block, unset before, holds after its guarded assignment the entry condition
    of the block -/
theorem truth_flag_assign (F : Funs) (cs : List Expr) (nm : Name) (e : Expr) (σ : Store)
    (hnone : σ nm = .val .none) :
    truth F (exec F ⟨condOf cs, .assign nm none e []⟩ σ) (.var nm) =
      match σ.status with
      | .running => allTrue (cs.map (truth F σ)) && (eval F [] σ e).truthy
      | _ => false := by
  rw [truth, eval_var, exec_guarded, condOf_truth]
  cases hrun : σ.status with
  | running =>
    cases allTrue (cs.map (truth F σ))
    · simp [Store.get, hnone, Val.truthy]
    · simp [exec_assign_plain F nm e σ hrun, Store.get, Store.set]
  | _ =>
    rw [exec_not_running F _ σ (by simp [hrun])]
    cases allTrue (cs.map (truth F σ)) <;> simp [Store.get, hnone, Val.truthy]

theorem seqStep_stmt (F : Funs) (s : SeqState) (k : Kind) : seqStep F s (.stmt k) =
    { s with σ := bif allTrue s.stack then exec F ⟨.const (.bool true), k⟩ s.σ else s.σ } := by
  simp only [seqStep, exec]; cases allTrue s.stack <;> rfl

theorem exec_agree_nonflag (F : Funs) (k : Kind) (σ σ' : Store)
    (hok : ∀ x, IsFlag x → x ∉ effR ⟨.const (.bool true), k⟩ ∧ x ∉ effW ⟨.const (.bool true), k⟩)
    (h : ∀ x, ¬ IsFlag x → σ x = σ' x) :
    ∀ x, ¬ IsFlag x → exec F ⟨.const (.bool true), k⟩ σ x = exec F ⟨.const (.bool true), k⟩ σ' x := by
  intro x hx
  let s : Stmt := ⟨.const (.bool true), k⟩
  by_cases hw : x ∈ effW s
  · refine exec_agree F s (S := effR s ++ effW s) (fun y hy => List.mem_append_left _ hy)
      (fun y hy => List.mem_append_right _ hy) (fun y hy => h y fun hf => ?_) x (List.mem_append_right _ hw)
    exact (List.mem_append.1 hy).elim (hok y hf).1 (hok y hf).2
  · rw [exec_frame F s σ hw, exec_frame F s σ' hw]; exact h x hx

theorem flag_prefix {x : Name} (h : IsFlag x) : ∃ rest, x.toList = '<' :: 'c' :: 'o' :: 'n' :: 'd' :: '>' :: rest := by
  obtain ⟨k, rfl⟩ := h
  cases k with
  | zero => exact ⟨[], by decide⟩
  | succ k =>
    have h6 : ("<cond>" : String).toList = ['<', 'c', 'o', 'n', 'd', '>'] := by decide
    exact ⟨"_".toList ++ (toString k).toList,
      by simp only [genName, String.toList_append, h6, List.cons_append, List.nil_append]⟩

theorem exec_not_flag : ¬ IsFlag EXEC := by
  intro h
  obtain ⟨rest, hr⟩ := flag_prefix h
  have : EXEC.toList = ['<', 'e', 'x', 'e', 'c', '>'] := by decide
  rw [this] at hr
  cases hr

/-- flat world (`st`: the builder's state, `σf`: the store after executing what was emitted so far
    in program order) and block world (`s`) after the same builder calls: the same off the flags, and
    the block world's stack of entry conditions is what the flags on the builder's stack say now -/
structure Sim (F : Funs) (σ0 : Store) (st : BState) (σf : Store) (s : SeqState) : Prop where
  nofail : st.failed = none
  sfail : s.failed = false
  agree : ∀ x, ¬ IsFlag x → σf x = s.σ x
  stack : st.condStack.map (truth F σf) = s.stack
  last : st.lastIf.map (truth F σf) = s.lastIf
  flagsSeen : ∀ c, (c ∈ st.condStack ∨ st.lastIf = some c) → ∀ x ∈ depVars c, IsFlag x ∧ x ∈ st.seen
  unset : ∀ x, IsFlag x → x ∉ st.seen → σf x = .val .none
  flat : σf = (st.out.map (·.1)).foldl (fun σ s => exec F s σ) σ0

/-! `Builder.run` and `seqExec` from an arbitrary state (`run ops = runFrom BState.init ops` and
    `seqExec F ops σ = seqFrom F ⟨σ, [], none, false⟩ ops` by `rfl`): what the induction of `sim_run` needs. -/

def runFrom (st : BState) (ops : List BOp) : BState :=
  ops.foldl (fun st op => if st.failed.isSome then st else step st op) st

def seqFrom (F : Funs) (s : SeqState) (ops : List BOp) : SeqState :=
  ops.foldl (fun s op => bif s.failed then s else seqStep F s op) s

theorem runFrom_cons {st : BState} (h : st.failed = none) (op : BOp) (ops : List BOp) :
    runFrom st (op :: ops) = runFrom (step st op) ops := by simp [runFrom, h]

theorem seqFrom_cons (F : Funs) {s : SeqState} (h : s.failed = false) (op : BOp) (ops : List BOp) :
    seqFrom F s (op :: ops) = seqFrom F (seqStep F s op) ops := by simp [seqFrom, h]

theorem runFrom_failed (st : BState) (h : st.failed.isSome) : ∀ ops, runFrom st ops = st := by
  intro ops
  induction ops with
  | nil => rfl
  | cons op ops ih =>
    unfold runFrom
    simp only [List.foldl_cons, h, if_true]
    exact ih

variable {F : Funs} {σ0 σf : Store} {st : BState} {s : SeqState}

/-- `fresh_var_name`: the seen set grows -/
theorem Sim.seen_mono (sim : Sim F σ0 st σf s) {st' : BState} (ho : st'.out = st.out)
    (hc : st'.condStack = st.condStack) (hl : st'.lastIf = st.lastIf) (hf : st'.failed = none)
    (hs : ∀ x ∈ st.seen, x ∈ st'.seen) : Sim F σ0 st' σf s := by
  refine ⟨hf, sim.sfail, sim.agree, by rw [hc]; exact sim.stack, by rw [hl]; exact sim.last, ?_,
    fun x hx hn => sim.unset x hx (fun h => hn (hs x h)), by rw [ho]; exact sim.flat⟩
  intro c h x hx
  rw [hc, hl] at h
  exact ⟨(sim.flagsSeen c h x hx).1, hs x (sim.flagsSeen c h x hx).2⟩

/-- emitting a statement that writes none of the flags in use -/
theorem Sim.add_stmt (sim : Sim F σ0 st σf s) (k : Kind) {s' : SeqState}
    (hs : s'.stack = s.stack) (hl : s'.lastIf = s.lastIf) (hf : s'.failed = false)
    (hw : ∀ c, (c ∈ st.condStack ∨ st.lastIf = some c) → ∀ x ∈ depVars c, x ∉ effWrites k)
    (hagree : ∀ x, ¬ IsFlag x → exec F ⟨condOf st.condStack, k⟩ σf x = s'.σ x) :
    Sim F σ0 (Builder.addStatement st k) (exec F ⟨condOf st.condStack, k⟩ σf) s' := by
  have hframe : ∀ x, x ∉ effWrites k → exec F ⟨condOf st.condStack, k⟩ σf x = σf x := fun x hx =>
    exec_frame F _ σf (by rwa [effW_eq])
  have hstable : ∀ c, (c ∈ st.condStack ∨ st.lastIf = some c) →
      truth F (exec F ⟨condOf st.condStack, k⟩ σf) c = truth F σf c := fun c hc =>
    congrArg Val.truthy (eval_agree F _ _ c (fun x hx => hframe x (hw c hc x hx)))
  refine ⟨sim.nofail, hf, hagree, ?_, ?_, ?_, ?_, ?_⟩
  · rw [hs, ← sim.stack]; exact List.map_congr_left (fun c hc => hstable c (Or.inl hc))
  · rw [hl, ← sim.last]
    show st.lastIf.map _ = _
    cases h : st.lastIf with
    | none => rfl
    | some c => simp only [Option.map_some]; rw [hstable c (Or.inr h)]
  · intro c hc x hx
    obtain ⟨h1, h2⟩ := sim.flagsSeen c hc x hx
    exact ⟨h1, by simp [Builder.addStatement, h2]⟩
  · intro x hx hns
    rw [hframe x (fun h => hns (by simp [Builder.addStatement, h]))]
    exact sim.unset x hx (fun h => hns (by simp [Builder.addStatement, h]))
  · simp only [Builder.addStatement, List.map_append, List.foldl_append, List.map_cons, List.map_nil,
      List.foldl_cons, List.foldl_nil]
    rw [← sim.flat]

/-- entering a block whose condition only mentions flags handed out -/
theorem Sim.push (sim : Sim F σ0 st σf s) (c : Expr) (hc : ∀ x ∈ depVars c, IsFlag x ∧ x ∈ st.seen) :
    Sim F σ0 { st with condStack := st.condStack ++ [c] } σf { s with stack := s.stack ++ [truth F σf c] } := by
  refine ⟨sim.nofail, sim.sfail, sim.agree, by simp [sim.stack], sim.last, ?_, sim.unset, sim.flat⟩
  intro c' h x hx
  simp only [List.mem_append, List.mem_singleton] at h
  rcases h with (h | rfl) | h
  · exact sim.flagsSeen c' (Or.inl h) x hx
  · exact hc x hx
  · exact sim.flagsSeen c' (Or.inr h) x hx

/-- leaving a block; `l` is what becomes of `lastIf` -/
theorem Sim.pop (sim : Sim F σ0 st σf s) {top : Expr} {rest : List Expr}
    (h : st.condStack.reverse = top :: rest) (l : Option Expr) (hl : ∀ c, l = some c → c = top) :
    Sim F σ0 { st with condStack := rest.reverse, lastIf := l } σf
      { s with stack := (rest.map (truth F σf)).reverse, lastIf := l.map (truth F σf) } := by
  have hmem : ∀ c, c = top ∨ c ∈ rest → c ∈ st.condStack := fun c hc => by
    rw [← List.mem_reverse, h]; simpa using hc
  refine ⟨sim.nofail, sim.sfail, sim.agree, by simp, rfl, ?_, sim.unset, sim.flat⟩
  rintro c (hc | hc) x hx
  · exact sim.flagsSeen c (Or.inl (hmem c (Or.inr (List.mem_reverse.mp hc)))) x hx
  · exact sim.flagsSeen c (Or.inl (hmem c (Or.inl (hl c hc)))) x hx

theorem Sim.stack_reverse (sim : Sim F σ0 st σf s) :
    s.stack.reverse = st.condStack.reverse.map (truth F σf) := by
  rw [← sim.stack, List.map_reverse]

theorem sim_step (sim : Sim F σ0 st σf s) (op : BOp) (hok : OpOK op) (hnf : (step st op).failed = none) :
    ∃ σf', Sim F σ0 (step st op) σf' (seqStep F s op) := by
  cases op with
  | stmt k =>
    refine ⟨_, sim.add_stmt k (s' := seqStep F s (.stmt k)) (by rw [seqStep_stmt]) (by rw [seqStep_stmt])
      (by rw [seqStep_stmt]; exact sim.sfail) ?_ ?_⟩
    · intro c hc x hx hwx
      exact (hok x (sim.flagsSeen c hc x hx).1).2 (by rwa [effW_eq])
    · intro x hx
      rw [exec_guarded, condOf_truth, sim.stack, seqStep_stmt]
      cases allTrue s.stack
      · exact sim.agree x hx
      · exact exec_agree_nonflag F k σf s.σ hok sim.agree x hx
  | ifBegin e =>
    have hnf1 : (freshVar st "<cond>").1.failed = none := hnf
    obtain ⟨nm, g, hst1, hflag, hnew⟩ := freshVar_ok hnf1
    have hflag : IsFlag nm := hflag
    have sim1 : Sim F σ0 { st with seen := st.seen ++ [nm], gens := g } σf s :=
      sim.seen_mono rfl rfl rfl sim.nofail (fun x hx => List.mem_append_left _ hx)
    -- the flag assignment leaves everything else alone …
    have hother : ∀ x, x ≠ nm → exec F ⟨condOf st.condStack, .assign nm none e []⟩ σf x = σf x := fun x hx =>
      exec_frame F _ σf (by simpa [effW, declWrites, Kind.isAssignment] using hx)
    have sim2 := sim1.add_stmt (.assign nm none e []) (s' := s) rfl rfl sim.sfail
      (fun c hc x hx hwx => by
        have : x = nm := by simpa [effWrites, declWrites, Kind.isAssignment] using hwx
        exact hnew (this ▸ (sim.flagsSeen c hc x hx).2))
      (fun x hx => by rw [hother x (fun h => hx (h ▸ hflag))]; exact sim.agree x hx)
    have sim3 := sim2.push (.var nm) (fun x hx => by
      simp only [depVars, List.mem_singleton] at hx
      subst hx; exact ⟨hflag, by simp [Builder.addStatement]⟩)
    -- … and leaves in the flag the entry condition of the block
    have hval : seqStep F s (.ifBegin e) = { s with stack := s.stack ++
        [truth F (exec F ⟨condOf st.condStack, .assign nm none e []⟩ σf) (.var nm)] } := by
      rw [truth_flag_assign F _ nm e σf (sim.unset nm hflag hnew), sim.stack,
        show σf.status = s.σ.status by simp [Store.status, sim.agree EXEC exec_not_flag],
        eval_agree F _ _ e (fun x hx => sim.agree x (fun hf => hok x hf hx))]
      rfl
    exact ⟨_, by rw [hval]; simpa [step, hst1] using sim3⟩
  | ifEnd | elseEnd =>
    cases h : st.condStack.reverse with
    | nil => simp [step, h] at hnf
    | cons top rest =>
      refine ⟨σf, ?_⟩
      simp only [step, seqStep, h, sim.stack_reverse, List.map_cons]
      exact sim.pop h _ (fun c hc => by cases hc <;> rfl)
  | elseBegin =>
    cases h : st.lastIf with
    | none => simp [step, h] at hnf
    | some c =>
      have := sim.push (.lnot c) (fun x hx => sim.flagsSeen c (Or.inr h) x (by simpa [depVars] using hx))
      have hl : s.lastIf = some (truth F σf c) := by rw [← sim.last, h]; rfl
      have hn : truth F σf (.lnot c) = !truth F σf c := by simp [truth, eval, evalI, Val.truthy]
      exact ⟨σf, by simpa [step, seqStep, h, hl, hn] using this⟩
  | fresh pfx =>
    obtain ⟨nm, g, hst1, -, -⟩ := freshVar_ok (st := st) (p := pfx) hnf
    refine ⟨σf, ?_⟩
    show Sim F σ0 (freshVar st pfx).1 σf s
    rw [hst1]
    exact sim.seen_mono rfl rfl rfl sim.nofail (fun x hx => List.mem_append_left _ hx)

theorem sim_run (F : Funs) (σ0 : Store) : ∀ (ops : List BOp) (st : BState) (σf : Store) (s : SeqState),
    Sim F σ0 st σf s → (∀ op ∈ ops, OpOK op) → (runFrom st ops).failed = none →
    ∃ σf', Sim F σ0 (runFrom st ops) σf' (seqFrom F s ops) := by
  intro ops
  induction ops with
  | nil => exact fun st σf s sim _ _ => ⟨σf, sim⟩
  | cons op ops ih =>
    intro st σf s sim hok hnf
    rw [runFrom_cons sim.nofail] at hnf ⊢
    rw [seqFrom_cons F sim.sfail]
    have hstep : (step st op).failed = none := by
      cases hf : (step st op).failed with
      | none => rfl
      | some m => rw [runFrom_failed _ (by simp [hf]), hf] at hnf; cases hnf
    obtain ⟨σf', sim'⟩ := sim_step sim op (hok op List.mem_cons_self) hstep
    exact ih _ σf' _ sim' (fun o ho => hok o (List.mem_cons_of_mem _ ho)) hnf

end Dagrt.StepLoop
