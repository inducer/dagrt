import Dagrt.Proofs.EvalZ
/-!
Soundness of the modelled matcher (`Model/Match.lean`) for C17, under the semantics `Hoist.evalZ`:
every record the unifier returns extends one it was given, binds declared free variables only and
makes the template evaluate to the target (`Sound`, proved as `unif_sound`).  The unifier is read as a
composition of transformers of record lists: `Refines` with `Refines.comp`.
-/
namespace Dagrt.Match
open Dagrt Dagrt.Hoist

/- Along the clauses of the definition (`case1`–`case17`: `beq`, `case18`–`case20`: `beqL`, `case21`–`case23`:
   `beqK`); the last clause of each (`case17`, `case20`, `case23`) is the catch-all, where the function is `false`. -/
theorem beq_sound :
    (∀ a b : Expr, Expr.beq a b = true → a = b) ∧
    (∀ a b : List (Name × Expr), Expr.beqK a b = true → a = b) ∧
    (∀ a b : List Expr, Expr.beqL a b = true → a = b) := by
  apply Expr.beq.mutual_induct
  case case1 | case2 => intro a b h; simp only [Expr.beq, beq_iff_eq] at h; rw [h]
  case case3 | case4 | case12 | case13 | case15 | case16 => intro a b ih h; rw [Expr.beq] at h; rw [ih h]
  case case5 | case6 | case8 =>
    intro a1 a2 b1 b2 ih1 ih2 h; simp only [Expr.beq, Bool.and_eq_true] at h; rw [ih1 h.1, ih2 h.2]
  case case7 =>
    intro f a k g b l iha ihk h
    simp only [Expr.beq, Bool.and_eq_true, beq_iff_eq] at h; rw [h.1.1, iha h.1.2, ihk h.2]
  case case9 => intro a n b m ih h; simp only [Expr.beq, Bool.and_eq_true, beq_iff_eq] at h; rw [h.1, ih h.2]
  case case10 =>
    intro o a1 a2 p b1 b2 ih1 ih2 h
    simp only [Expr.beq, Bool.and_eq_true, beq_iff_eq] at h; rw [h.1.1, ih1 h.1.2, ih2 h.2]
  case case11 => intro a b ih h; rw [Expr.beq] at h; rw [ih h]
  case case14 =>
    intro a1 a2 a3 b1 b2 b3 ih1 ih2 ih3 h
    simp only [Expr.beq, Bool.and_eq_true] at h; rw [ih1 h.1.1, ih2 h.1.2, ih3 h.2]
  case case17 => intro t x _ _ _ _ _ _ _ _ _ _ _ _ _ _ _ _ h; rw [Expr.beq] at h <;> first | cases h | assumption
  case case18 | case21 => intro _; rfl
  case case19 => intro a as b bs ih ihs h; simp only [Expr.beqL, Bool.and_eq_true] at h; rw [ih h.1, ihs h.2]
  case case22 =>
    intro k a as l b bs ih ihs h
    simp only [Expr.beqK, Bool.and_eq_true, beq_iff_eq] at h; rw [h.1.1, ih h.1.2, ihs h.2]
  case case20 => intro t x _ _ h; rw [Expr.beqL] at h <;> first | cases h | assumption
  case case23 => intro t x _ _ h; rw [Expr.beqK] at h <;> first | cases h | assumption
theorem beq_eq : ∀ a b : Expr, Expr.beq a b = true → a = b := beq_sound.1
theorem beqL_eq : ∀ a b : List Expr, Expr.beqL a b = true → a = b := beq_sound.2.2
theorem beqK_eq : ∀ a b : List (Name × Expr), Expr.beqK a b = true → a = b := beq_sound.2.1

@[simp] theorem lookupE_nil (x : Name) : lookupE [] x = none := rfl
@[simp] theorem lookupE_cons (k : Name) (v : Expr) (r : List (Name × Expr)) (x : Name) :
    lookupE ((k, v) :: r) x = if k = x then some v else lookupE r x := rfl

theorem lookupE_append (a b : List (Name × Expr)) (x : Name) :
    lookupE (a ++ b) x = (lookupE a x).or (lookupE b x) := by
  induction a with
  | nil => rfl
  | cons p a ih => obtain ⟨k, v⟩ := p; by_cases h : k = x <;> simp [h, ih]

theorem lookupE_mem {m : List (Name × Expr)} {x : Name} {v : Expr} (h : lookupE m x = some v) : (x, v) ∈ m := by
  induction m with
  | nil => cases h
  | cons p m ih =>
    obtain ⟨k, w⟩ := p
    by_cases hk : k = x
    · simp_all
    · exact List.mem_cons_of_mem _ (ih (by simpa [hk] using h))

theorem lookupE_filter (P : Name × Expr → Bool) (x : Name) : ∀ m : List (Name × Expr),
    (∀ p ∈ m, p.1 = x → P p = true) → lookupE (m.filter P) x = lookupE m x := by
  intro m
  induction m with
  | nil => intro _; rfl
  | cons kv m ih =>
    obtain ⟨k, v⟩ := kv
    intro h
    have ih := ih fun p hp => h p (List.mem_cons_of_mem _ hp)
    by_cases hk : k = x
    · subst hk; simp [h (k, v) List.mem_cons_self rfl]
    · cases hP : P (k, v) <;> simp [hP, hk, ih]

def Ext (a b : URec) : Prop := ∀ x v, lookupE a.lmap x = some v → lookupE b.lmap x = some v

theorem Ext.refl (a : URec) : Ext a a := fun _ _ h => h
theorem Ext.trans {a b c : URec} (h1 : Ext a b) (h2 : Ext b c) : Ext a c := fun x v h => h2 x v (h1 x v h)

def KeysIn (C : List Name) (r : URec) : Prop := ∀ p ∈ r.lmap, C.contains p.1 = true

theorem addsE_eq (m1 : List (Name × Expr)) : ∀ (m2 l : List (Name × Expr)), addsE m1 m2 = some l →
    l = m2.filter (fun p => (lookupE m1 p.1).isNone) ∧ ∀ p ∈ m2, ∀ v1, lookupE m1 p.1 = some v1 → v1 = p.2 := by
  intro m2
  induction m2 with
  | nil => intro l h; simp [addsE] at h; simp [h]
  | cons nv r ih =>
    obtain ⟨n, v⟩ := nv
    intro l h
    simp only [addsE] at h
    split at h
    · rename_i v1 hv1
      split at h
      · rename_i hb
        obtain ⟨h1, h2⟩ := ih l h
        refine ⟨by simp [hv1, h1], fun p hp w hw => ?_⟩
        rcases List.mem_cons.mp hp with rfl | hp
        · rw [hv1] at hw; cases hw; exact beq_eq _ _ hb
        · exact h2 p hp w hw
      · cases h
    · rename_i hnone
      split at h
      · rename_i a ha
        obtain ⟨h1, h2⟩ := ih a ha
        cases h
        refine ⟨by simp [hnone, h1], fun p hp w hw => ?_⟩
        rcases List.mem_cons.mp hp with rfl | hp
        · rw [hnone] at hw; cases hw
        · exact h2 p hp w hw
      · cases h

theorem unify_lmap {a b r : URec} (h : a.unify b = some r) :
    r.lmap = a.lmap ++ b.lmap.filter (fun p => (lookupE a.lmap p.1).isNone) ∧
      ∀ p ∈ b.lmap, ∀ v1, lookupE a.lmap p.1 = some v1 → v1 = p.2 := by
  unfold URec.unify at h
  split at h
  · cases h
  · rename_i l hl
    split at h
    · cases h
    · cases h
      obtain ⟨h1, h2⟩ := addsE_eq _ _ _ hl
      exact ⟨by rw [h1], h2⟩

theorem unify_spec (C : List Name) {a b r : URec} (h : a.unify b = some r) :
    Ext a r ∧ Ext b r ∧ (KeysIn C a → KeysIn C b → KeysIn C r) := by
  obtain ⟨h1, h2⟩ := unify_lmap h
  refine ⟨fun x v hx => ?_, fun x v hx => ?_, fun ka kb p hp => ?_⟩
  · rw [h1, lookupE_append, hx]; rfl
  · rw [h1, lookupE_append]
    cases hm : lookupE a.lmap x with
    | some v1 => rw [h2 _ (lookupE_mem hx) v1 hm]; rfl
    | none =>
      rw [Option.none_or, lookupE_filter _ x _ fun p _ hp => by simp [hp, hm]]
      exact hx
  · rw [h1] at hp
    rcases List.mem_append.mp hp with hp | hp
    · exact ka p hp
    · exact kb p (List.mem_filter.mp hp).1

theorem mem_unifyMany {us : List URec} {u r : URec} : r ∈ unifyMany us u ↔ ∃ u1 ∈ us, u1.unify u = some r := by
  unfold unifyMany; simp [List.mem_filterMap]

theorem KeysIn_ofEq {C : List Name} {x : Name} {e : Expr} (h : C.contains x = true) : KeysIn C (URec.ofEq x e) := by
  intro p hp; simp [URec.ofEq] at hp; subst hp; exact h

theorem lookup_ofEq (x : Name) (e : Expr) : lookupE (URec.ofEq x e).lmap x = some e := by
  simp [URec.ofEq]

theorem KeysIn_empty (C : List Name) : KeysIn C URec.empty := by intro p hp; simp [URec.empty] at hp

abbrev Sub := Name → Option Expr
def Extends (r : URec) (σ : Sub) : Prop := ∀ x v, lookupE r.lmap x = some v → σ x = some v
/-- σ leaves alone what is not a declared free variable: the template's other variables and its
    function symbols stand for themselves in the target -/
def DomC (C : List Name) (σ : Sub) : Prop := ∀ x, C.contains x = false → σ x = none

/-- for EVERY σ that extends the record, not just the record's own map: so it survives extending the
    record (`Sat.isMono`), which composing steps of the unifier needs -/
def Sat (C : List Name) (r : URec) (t o : Expr) : Prop :=
  ∀ σ, Extends r σ → DomC C σ → ∀ ρ F, evalZ ρ F (subst σ t) = evalZ ρ F o

theorem Extends.mono {a b : URec} {σ : Sub} (h : Ext a b) (hb : Extends b σ) : Extends a σ :=
  fun x v hx => hb x v (h x v hx)

/-- one step of the unifier: `f` only refines records — each record it returns extends one it was
    given; `KeysIn` is passed on, not assumed of the result -/
def Refines (C : List Name) (f : List URec → List URec) (P : URec → Prop) : Prop :=
  ∀ us r, (∀ u ∈ us, KeysIn C u) → r ∈ f us → (∃ u ∈ us, Ext u r) ∧ KeysIn C r ∧ P r

def Mono (P : URec → Prop) : Prop := ∀ {a b}, Ext a b → P a → P b

theorem Sat.isMono {C : List Name} {t o : Expr} : Mono (fun r => Sat C r t o) :=
  fun h hs σ he hd => hs σ (he.mono h) hd

section
variable {C : List Name} {f g : List URec → List URec} {P Q : URec → Prop}

theorem Refines.id : Refines C (fun us => us) (fun _ => True) :=
  fun _ r hus hr => ⟨⟨r, hr, Ext.refl r⟩, hus r hr, trivial⟩

theorem Refines.nil : Refines C (fun _ => []) P := fun _ _ _ hr => nomatch hr

theorem Refines.ite {c : Prop} [Decidable c] (hf : c → Refines C f P) (hg : ¬c → Refines C g P) :
    Refines C (fun us => if c then f us else g us) P := by
  by_cases h : c
  · simpa only [if_pos h] using hf h
  · simpa only [if_neg h] using hg h

theorem Refines.weaken (hf : Refines C f P) (h : ∀ r, P r → Q r) : Refines C f Q :=
  fun us r hus hr => let ⟨e1, e2, e3⟩ := hf us r hus hr; ⟨e1, e2, h r e3⟩

theorem Refines.comp (hf : Refines C f P) (hg : Refines C g Q) (hQ : Mono Q) :
    Refines C (fun us => f (g us)) (fun r => P r ∧ Q r) := by
  intro us r hus hr
  obtain ⟨⟨u', hu', e1⟩, e2, e3⟩ := hf (g us) r (fun u hu => (hg us u hus hu).2.1) hr
  obtain ⟨⟨u, hu, g1⟩, _, g3⟩ := hg us u' hus hu'
  exact ⟨⟨u, hu, g1.trans e1⟩, e2, e3, hQ e1 g3⟩

theorem unifyMany_refines {u : URec} (hu : KeysIn C u) :
    Refines C (fun us => unifyMany us u) (fun r => Ext u r) := by
  intro us r hus hr
  obtain ⟨u1, hu1, h⟩ := mem_unifyMany.mp hr
  obtain ⟨g1, g2, g3⟩ := unify_spec C h
  exact ⟨⟨u1, hu1, g1⟩, g3 (hus u1 hu1) hu, g2⟩

end

def Sound (C : List Name) (vf : Name → Name → Bool) (t : Expr) : Prop :=
  ∀ (o : Expr) (us : List URec) (r : URec), (∀ u ∈ us, KeysIn C u) → r ∈ unif C vf t o us →
    (∃ u ∈ us, Ext u r) ∧ KeysIn C r ∧ Sat C r t o

theorem Sound.refines {C : List Name} {vf : Name → Name → Bool} {t : Expr} (h : Sound C vf t) (o : Expr) :
    Refines C (unif C vf t o) (fun r => Sat C r t o) := h o

theorem isZero_eq {e : Expr} (h : isZero e = true) : e = .const (.int 0) := by
  unfold isZero at h; split at h <;> simp_all
theorem isOne_eq {e : Expr} (h : isOne e = true) : e = .const (.int 1) := by
  unfold isOne at h; split at h <;> simp_all

theorem flatSL_sum (ρ : Env) (F : FunI) : ∀ {cs : List Expr}, (∀ c ∈ cs, sumZ ρ F (flatS c) = evalZ ρ F c) →
    sumZ ρ F (flatSL cs) = sumZ ρ F cs := by
  intro cs
  induction cs with
  | nil => intro _; simp [flatSL]
  | cons c cs ih =>
    intro h
    rw [flatSL, sumZ_eq, List.map_append, AC.foldV_append, ← sumZ_eq, ← sumZ_eq, h c List.mem_cons_self,
      ih fun c hc => h c (List.mem_cons_of_mem _ hc)]
    rfl

theorem flatS_sum (ρ : Env) (F : FunI) : ∀ e : Expr, sumZ ρ F (flatS e) = evalZ ρ F e := by
  intro e
  induction e using Expr.induction with
  | sum cs ih => rw [flatS]; simp only [evalZ]; exact flatSL_sum ρ F ih
  | const c =>
    simp only [flatS]; split
    · rename_i h; rw [isZero_eq h]; simp [sumZ, evalZ]
    · simp [sumZ]
  | var _ | prod _ _ | quot _ _ _ _ | pow _ _ _ _ | call _ _ _ _ _ | sub _ _ _ _ | attr _ _ _ | cmp _ _ _ _ _
  | lnot _ _ | land _ _ | lor _ _ | ite _ _ _ _ _ _ | min _ _ | max _ _ =>
    exact Int.add_zero _   -- `flatS e` evaluates to `[e]`

theorem flatPL_prod (ρ : Env) (F : FunI) : ∀ {cs : List Expr},
    (∀ c ∈ cs, (flatP c = none → evalZ ρ F c = 0) ∧ (∀ xs, flatP c = some xs → prodZ ρ F xs = evalZ ρ F c)) →
    (flatPL cs = none → prodZ ρ F cs = 0) ∧ (∀ xs, flatPL cs = some xs → prodZ ρ F xs = prodZ ρ F cs) := by
  intro cs
  induction cs with
  | nil => intro _; simp [flatPL, prodZ]
  | cons c cs ih =>
    intro h
    obtain ⟨h1, h2⟩ := h c List.mem_cons_self
    obtain ⟨h3, h4⟩ := ih fun c hc => h c (List.mem_cons_of_mem _ hc)
    rw [flatPL]
    cases hc : flatP c with
    | none => simp [prodZ, h1 hc]
    | some a =>
      cases hcs : flatPL cs with
      | none => simp [prodZ, h3 hcs]
      | some b =>
        simp
        rw [prodZ_eq, List.map_append, AC.foldV_append, ← prodZ_eq, ← prodZ_eq, h2 a hc, h4 b hcs]
        simp [prodZ, AC.op]

theorem flatP_prod (ρ : Env) (F : FunI) : ∀ e : Expr,
    (flatP e = none → evalZ ρ F e = 0) ∧ (∀ xs, flatP e = some xs → prodZ ρ F xs = evalZ ρ F e) := by
  intro e
  induction e using Expr.induction with
  | prod cs ih => rw [flatP]; simp only [evalZ]; exact flatPL_prod ρ F ih
  | const c =>
    simp only [flatP]
    by_cases hz : isZero (.const c) = true
    · simp [hz]; rw [isZero_eq hz]; simp [evalZ]
    · by_cases ho : isOne (.const c) = true
      · simp [hz, ho]; rw [isOne_eq ho]; simp [evalZ, prodZ]
      · simp [hz, ho, prodZ]
  | var _ | sum _ _ | quot _ _ _ _ | pow _ _ _ _ | call _ _ _ _ _ | sub _ _ _ _ | attr _ _ _ | cmp _ _ _ _ _
  | lnot _ _ | land _ _ | lor _ _ | ite _ _ _ _ _ _ | min _ _ | max _ _ =>
    exact ⟨nofun, fun _ h => by cases h; simp [prodZ]⟩   -- `flatP e` evaluates to `some [e]`

theorem evalZ_factory (k : AC) (ρ : Env) (F : FunI) (ts : List Expr) :
    evalZ ρ F (k.factory ts) = k.foldV (ts.map (evalZ ρ F)) := by
  cases k
  · simp only [AC.factory, flattenedSum]
    rw [← sumZ_eq, ← flatSL_sum ρ F fun c _ => flatS_sum ρ F c]
    split
    · rename_i h; simp [h, evalZ, sumZ]
    · rename_i x h; simp [h, sumZ]
    · simp [evalZ]
  · simp only [AC.factory, flattenedProduct]
    rw [← prodZ_eq]
    obtain ⟨h1, h2⟩ := flatPL_prod ρ F (cs := ts) fun c _ => flatP_prod ρ F c
    split
    · rename_i h; simp [evalZ, h1 h]
    · rename_i h; rw [← h2 _ h]; simp [evalZ, prodZ]
    · rename_i x h; rw [← h2 _ h]; simp [prodZ]
    · rename_i xs _ _ h; rw [← h2 _ h]; simp [evalZ]

/-! The commutative-associative search (`unifAC`).  The fold over the template's children splits into
    the non-variable children and the plain candidate variables (`split_fold`).  `matchChildren`
    matches each non-variable child, by the unifier itself (`Sound` of the child), against a target
    child that it then removes from `left`; `matchPlain` binds the plain variables to `factory` of
    the blocks of a partition of what is left (`tryPartition_spec`).  The two folds then agree up to
    a permutation (`AC.foldV_perm`).
    The records handed in (`us`) are merged in only through a row (`rowOf` runs the unifier on
    `us`) or, when there is no non-variable child, at the end of `matchPlain`; for a template without
    children neither happens.  The last conjuncts of `matchPlain_spec` and `matchChildren_spec`
    record this, and it is why `runAC_spec`, and with it soundness (`wfT`), needs `cs ≠ []`. -/

theorem splits_perm : ∀ (s : List Nat) (n : Nat) (p : List Nat × List Nat), p ∈ splits s n → (p.1 ++ p.2).Perm s
  | [], 0, p, h => by simp [splits] at h; subst h; simp
  | [], _ + 1, p, h => by simp [splits] at h
  | x :: xs, 0, p, h => by simp [splits] at h; subst h; simp
  | x :: xs, n + 1, p, h => by
    simp only [splits, List.mem_append, List.mem_map] at h
    rcases h with ⟨q, hq, rfl⟩ | ⟨q, hq, rfl⟩
    · have := splits_perm xs n q hq
      simpa using this
    · have := splits_perm xs (n + 1) q hq
      simp only
      exact (List.perm_middle).trans (List.Perm.cons x this)

theorem partitions_spec : ∀ (k : Nat) (s : List Nat) (p : List (List Nat)), p ∈ partitions s k →
    p.length = k ∧ p.flatten.Perm s := by
  intro k
  induction k with
  | zero => intro s p h; simp [partitions] at h
  | succ k ih =>
    intro s p h
    cases k with
    | zero => simp [partitions] at h; subst h; simp
    | succ k =>
      simp only [partitions, List.mem_flatMap, List.mem_map] at h
      obtain ⟨size, _, q, hq, g, hg, rfl⟩ := h
      obtain ⟨hl, hp⟩ := ih q.2 g hg
      refine ⟨by simp [hl], ?_⟩
      simp only [List.flatten_cons]
      exact (List.Perm.append_left q.1 hp).trans (splits_perm s size q hq)

def varVal (σ : Sub) (ρ : Env) (F : FunI) (x : Name) : Int := evalZ ρ F (subst σ (.var x))

theorem tryPartition_spec (C : List Name) (k : AC) (os : List Expr) :
    ∀ (gs : List (List Nat)) (xs : List Name) (r r' : URec), gs.length = xs.length →
      (∀ x ∈ xs, C.contains x = true) → tryPartition k os gs xs r = some r' →
      Ext r r' ∧ (KeysIn C r → KeysIn C r') ∧
        ∀ σ, Extends r' σ → ∀ ρ F, k.foldV (xs.map (varVal σ ρ F)) = k.foldV ((gs.flatten.map (pick os)).map (evalZ ρ F)) := by
  intro gs
  induction gs with
  | nil =>
    intro xs r r' hl _ h
    cases xs with
    | nil => simp [tryPartition] at h; subst h; exact ⟨Ext.refl _, id, fun _ _ _ _ => rfl⟩
    | cons => simp at hl
  | cons g gs ih =>
    intro xs r r' hl hC h
    cases xs with
    | nil => simp at hl
    | cons x xs =>
      simp only [tryPartition] at h
      split at h
      · simp at h
      · rename_i r1 h1
        obtain ⟨e1, e2, e3⟩ := unify_spec C h1
        obtain ⟨f1, f2, f3⟩ := ih xs r1 r' (by simpa using hl) (fun y hy => hC y (List.mem_cons_of_mem _ hy)) h
        refine ⟨e1.trans f1, fun hk => f2 (e3 hk (KeysIn_ofEq (hC x (List.mem_cons_self)))), fun σ he ρ F => ?_⟩
        -- `x` is bound to `factory` of its group, whose value is the fold over the group
        have hx := he _ _ (f1 _ _ (e2 _ _ (lookup_ofEq x _)))
        simp only [List.map_cons, AC.foldV_cons, List.flatten_cons, List.map_append, AC.foldV_append, f3 σ he ρ F]
        congr 1
        simp only [varVal, subst, hx, Option.getD_some, evalZ_factory]

theorem firstSome_eq {α β : Type} (f : α → Option β) (l : List α) : firstSome f l = l.findSome? f := by
  induction l with
  | nil => rfl
  | cons a as ih => cases h : f a <;> simp [firstSome, h, ih]

theorem matchPlain_spec (C : List Name) (k : AC) (os : List Expr) (plain : List Name) (hasNonVar : Bool)
    (us : List URec) (urec : URec) (left : List Nat) (r : URec)
    (hC : ∀ x ∈ plain, C.contains x = true) (hus : ∀ u ∈ us, KeysIn C u) (hk : KeysIn C urec)
    (hr : r ∈ matchPlain k os plain hasNonVar us urec left) :
    Ext urec r ∧ KeysIn C r ∧
      (∀ σ, Extends r σ → ∀ ρ F, k.foldV (plain.map (varVal σ ρ F)) = k.foldV ((left.map (pick os)).map (evalZ ρ F))) ∧
      (hasNonVar = false → plain ≠ [] → ∃ u ∈ us, Ext u r) := by
  unfold matchPlain at hr
  split at hr
  · rename_i hemp
    simp at hemp
    simp at hr; subst hr
    obtain ⟨h1, h2⟩ := hemp
    subst h1; subst h2
    exact ⟨Ext.refl _, hk, fun _ _ _ _ => rfl, fun _ h => absurd rfl h⟩
  · simp only at hr
    split at hr
    · rename_i hnv
      split at hr
      · rename_i r0 h0
        simp at hr; subst hr
        rw [firstSome_eq] at h0
        obtain ⟨p, hp, hf⟩ := List.exists_of_findSome?_eq_some h0
        obtain ⟨pl, pp⟩ := partitions_spec _ _ _ hp
        obtain ⟨e1, e2, e3⟩ := tryPartition_spec C k os p plain urec r pl hC hf
        refine ⟨e1, e2 hk, fun σ he ρ F => ?_, fun h => by simp [hnv] at h⟩
        rw [e3 σ he ρ F]
        exact k.foldV_perm ((pp.map _).map _)
      · simp at hr
    · simp only [List.mem_flatMap] at hr
      obtain ⟨p, hp, hr⟩ := hr
      split at hr
      · rename_i r0 h0
        obtain ⟨pl, pp⟩ := partitions_spec _ _ _ hp
        obtain ⟨e1, e2, e3⟩ := tryPartition_spec C k os p plain urec r0 pl hC h0
        obtain ⟨g1, g2, g3⟩ := unifyMany_refines (e2 hk) us r hus hr
        refine ⟨e1.trans g3, g2, fun σ he ρ F => ?_, fun _ _ => g1⟩
        rw [e3 σ (he.mono g3) ρ F]
        exact k.foldV_perm ((pp.map _).map _)
      · simp at hr

def rowOf (C : List Name) (vf : Name → Name → Bool) (os : List Expr) (us : List URec) (c : Expr) :
    List (Nat × List URec) :=
  (os.zipIdx.map fun oj => (oj.2, unif C vf c oj.1 us)).filter fun p => !p.2.isEmpty

theorem unifRows_eq (C : List Name) (vf : Name → Name → Bool) (os : List Expr) (us : List URec) :
    ∀ cs, unifRows C vf cs os us = (cs.filter fun c => !isCandVar C c).map (rowOf C vf os us) := by
  intro cs
  induction cs with
  | nil => rw [unifRows]; rfl
  | cons c cs ih =>
    rw [unifRows, ih]
    by_cases h : isCandVar C c = true <;> simp [h, rowOf]

theorem pick_zipIdx {os : List Expr} {p : Expr × Nat} (h : p ∈ os.zipIdx) : pick os p.2 = p.1 := by
  have := List.mem_zipIdx_iff_getElem?.mp h
  simp [pick, List.getD, this]

theorem mem_rowOf {C : List Name} {vf : Name → Name → Bool} {os : List Expr} {us : List URec} {c : Expr}
    {jp : Nat × List URec} (h : jp ∈ rowOf C vf os us c) : jp.2 = unif C vf c (pick os jp.1) us := by
  obtain ⟨oj, hoj, rfl⟩ := List.mem_map.mp (List.mem_filter.mp h).1
  rw [pick_zipIdx hoj]

theorem matchChildren_spec (C : List Name) (vf : Name → Name → Bool) (k : AC) (os : List Expr) (plain : List Name)
    (hasNonVar : Bool) (us : List URec) (hC : ∀ x ∈ plain, C.contains x = true) (hus : ∀ u ∈ us, KeysIn C u) :
    ∀ (ncs : List Expr) (urec : URec) (left : List Nat) (r : URec),
      (∀ c ∈ ncs, Sound C vf c) → KeysIn C urec →
      r ∈ matchChildren k os plain hasNonVar us (ncs.map (rowOf C vf os us)) urec left →
      Ext urec r ∧ KeysIn C r ∧
      (∀ σ, Extends r σ → DomC C σ → ∀ ρ F,
        k.op (k.foldV (ncs.map fun c => evalZ ρ F (subst σ c))) (k.foldV (plain.map (varVal σ ρ F)))
          = k.foldV ((left.map (pick os)).map (evalZ ρ F))) ∧
      ((ncs ≠ [] ∨ (hasNonVar = false ∧ plain ≠ [])) → ∃ u ∈ us, Ext u r) := by
  intro ncs
  induction ncs with
  | nil =>
    intro urec left r _ hk hr
    simp only [List.map_nil, matchChildren] at hr
    obtain ⟨e1, e2, e3, e4⟩ := matchPlain_spec C k os plain hasNonVar us urec left r hC hus hk hr
    refine ⟨e1, e2, fun σ he _ ρ F => by simp [k.unit_op, e3 σ he ρ F], fun h => ?_⟩
    rcases h with h | ⟨h1, h2⟩
    · exact absurd rfl h
    · exact e4 h1 h2
  | cons c ncs ih =>
    intro urec left r hcs hk hr
    simp only [List.map_cons, matchChildren, List.mem_flatMap] at hr
    obtain ⟨jp, hjp, hr⟩ := hr
    split at hr
    · rename_i hmem
      obtain ⟨cand, hcand, hr⟩ := List.mem_flatMap.mp hr
      -- `cand` extends `urec` and some `r1` the unifier returns for `c` against the `jp.1`-th target child
      rw [mem_rowOf hjp] at hcand
      obtain ⟨⟨r1, hr1, g1⟩, g2, g3⟩ := unifyMany_refines hk _ cand
        (fun u hu => (hcs c List.mem_cons_self _ us u hus hu).2.1) hcand
      obtain ⟨⟨u, hu, huu⟩, _, s1⟩ := hcs c List.mem_cons_self _ us r1 hus hr1
      obtain ⟨e1, e2, e3, _⟩ := ih cand (left.erase jp.1) r (fun c' h' => hcs c' (List.mem_cons_of_mem _ h')) g2 hr
      refine ⟨g3.trans e1, e2, fun σ he hd ρ F => ?_, fun _ => ⟨u, hu, huu.trans (g1.trans e1)⟩⟩
      have hc : evalZ ρ F (subst σ c) = evalZ ρ F (pick os jp.1) := s1 σ (he.mono (g1.trans e1)) hd ρ F
      have hp : left.Perm (jp.1 :: left.erase jp.1) := List.perm_cons_erase (by simpa using hmem)
      rw [k.foldV_perm ((hp.map _).map _)]
      simp only [List.map_cons, AC.foldV_cons, k.op_assoc, e3 σ he hd ρ F, hc]
    · simp at hr

theorem plainNames_var (C : List Name) : ∀ cs : List Expr, (plainNames C cs).map Expr.var = cs.filter (isCandVar C) := by
  intro cs
  induction cs with
  | nil => rfl
  | cons c cs ih =>
    cases c with
    | var x =>
      cases h : C.contains x <;>
        simp only [plainNames, isCandVar, List.filter_cons, h, if_true, if_false, Bool.false_eq_true, List.map_cons, ih]
    | _ => simp [plainNames, isCandVar, ih]

theorem split_fold (C : List Name) (k : AC) (σ : Sub) (ρ : Env) (F : FunI) (cs : List Expr) :
    k.foldV (cs.map fun c => evalZ ρ F (subst σ c)) =
      k.op (k.foldV ((cs.filter fun c => !isCandVar C c).map fun c => evalZ ρ F (subst σ c)))
           (k.foldV ((plainNames C cs).map (varVal σ ρ F))) := by
  have : (plainNames C cs).map (varVal σ ρ F) = (cs.filter (isCandVar C)).map fun c => evalZ ρ F (subst σ c) := by
    rw [← plainNames_var, List.map_map]; rfl
  rw [this, k.op_comm, ← k.foldV_append, ← List.map_append]
  exact k.foldV_perm ((List.filter_append_perm (isCandVar C) cs).symm.map _)

theorem plainNames_in (C : List Name) (cs : List Expr) : ∀ x ∈ plainNames C cs, C.contains x = true := fun x hx =>
  (List.mem_filter.mp (plainNames_var C cs ▸ List.mem_map_of_mem hx : Expr.var x ∈ cs.filter (isCandVar C))).2

theorem plainNames_ne_nil (C : List Name) (cs : List Expr) (h : (cs.filter fun c => !isCandVar C c) = [])
    (hne : cs ≠ []) : plainNames C cs ≠ [] := by
  intro h0
  have hp := List.filter_append_perm (isCandVar C) cs
  rw [← plainNames_var, h0, h] at hp
  exact hne hp.symm.eq_nil

theorem range_pick (os : List Expr) : (List.range os.length).map (pick os) = os := by
  apply List.ext_getElem
  · simp
  · intro i h1 h2
    simp at h1
    simp [pick, List.getD, h1]

theorem substL_map (σ : Sub) : ∀ cs : List Expr, substL σ cs = cs.map (subst σ)
  | [] => rfl
  | c :: cs => by simp [substL, substL_map σ cs]

theorem unifVar_spec (C : List Name) (x : Name) (o : Expr) : Refines C (unifVar C x o) (fun r =>
    (C.contains x = true ∧ lookupE r.lmap x = some o) ∨ (C.contains x = false ∧ o = .var x)) := by
  unfold unifVar
  refine Refines.ite (fun hc => (unifyMany_refines (KeysIn_ofEq hc)).weaken
    fun r h => Or.inl ⟨hc, h _ _ (lookup_ofEq _ _)⟩) fun hc => ?_
  split
  · exact Refines.ite (fun hxy => Refines.id.weaken fun _ _ => Or.inr ⟨by simpa using hc, by rw [hxy]⟩) fun _ => .nil
  · exact Refines.nil

theorem runAC_spec (C : List Name) (vf : Name → Name → Bool) (k : AC) (cs os : List Expr)
    (hcs : ∀ c ∈ cs, Sound C vf c) (hne : cs ≠ []) :
    Refines C (fun us => runAC k os (plainNames C cs) us (unifRows C vf cs os us)) (fun r =>
      ∀ σ, Extends r σ → DomC C σ → ∀ ρ F, evalZ ρ F (subst σ (k.mk cs)) = k.foldV (os.map (evalZ ρ F))) := by
  intro us r hus hr
  unfold runAC at hr
  simp only [unifRows_eq] at hr
  obtain ⟨e1, e2, e3, e4⟩ := matchChildren_spec C vf k os (plainNames C cs) _ us (plainNames_in C cs) hus
    _ URec.empty _ r (fun c hc => hcs c (List.mem_filter.mp hc).1) (KeysIn_empty C) hr
  refine ⟨e4 ?_, e2, fun σ he hd ρ F => ?_⟩
  · by_cases hr0 : (cs.filter fun c => !isCandVar C c) = []
    · exact .inr ⟨by simp [hr0], plainNames_ne_nil C cs hr0 hne⟩
    · exact .inl hr0
  · have : subst σ (k.mk cs) = k.mk (substL σ cs) := by cases k <;> simp [AC.mk, subst]
    rw [this, evalZ_mk, substL_map, List.map_map]
    have := e3 σ he hd ρ F
    rw [range_pick] at this
    rw [← this, ← split_fold]
    rfl

theorem identVars_in (C : List Name) (vf : Name → Name → Bool) (cs : List Expr) (x : Name)
    (hx : x ∈ identVars C vf cs) : C.contains x = true := by
  unfold identVars at hx
  split at hx
  · rename_i a b
    split at hx
    · rename_i x' y' h1 h2
      simp only [isCandVar] at h1 h2
      split at hx
      · simp at hx; subst hx; exact h1
      · split at hx <;> simp at hx <;> rcases hx with rfl | rfl <;> assumption
    · rename_i x' _ h1 h2
      simp only [isCandVar] at h1
      simp at hx; subst hx; exact h1
    · rename_i _ y' h1 h2
      simp only [isCandVar] at h2
      simp at hx; subst hx; exact h2
    · simp at hx
  · simp at hx

theorem unifAC_spec (C : List Name) (vf : Name → Name → Bool) (k : AC) (cs : List Expr) (o : Expr)
    (hcs : ∀ c ∈ cs, Sound C vf c) (hne : cs ≠ []) :
    Refines C (unifAC C vf k cs o) (fun r => Sat C r (k.mk cs) o) := by
  intro us
  rw [unifAC]
  split
  · split
    · rename_i os hos
      have ho : o = k.mk os := by
        unfold acTarget at hos
        split at hos <;> simp_all [AC.mk]
      exact (runAC_spec C vf k cs os hcs hne).weaken (fun r e3 σ he hd ρ F => by
        rw [e3 σ he hd ρ F, ho, evalZ_mk]) us
    · exact Refines.nil us
  · intro r hus hr
    obtain ⟨x, hx, hr⟩ := List.mem_flatMap.mp hr
    obtain ⟨e1, e2, e3, _⟩ := (runAC_spec C vf k cs [k.ident, o] hcs hne).comp
      (unifyMany_refines (KeysIn_ofEq (identVars_in C vf cs x hx))) (fun h e => e.trans h) us r hus hr
    refine ⟨e1, e2, fun σ he hd ρ F => ?_⟩
    rw [e3 σ he hd ρ F]
    simp [evalZ_ident, k.unit_op, k.op_unit]

/-- one `comp` per parameter -/
theorem unifL_spec (C : List Name) (vf : Name → Name → Bool) : ∀ (cs os : List Expr), (∀ c ∈ cs, Sound C vf c) →
    cs.length = os.length →
    Refines C (unifL C vf cs os) (fun r => ∀ σ, Extends r σ → DomC C σ → ∀ ρ F,
      evalL ρ F (substL σ cs) = evalL ρ F os)
  | [], [], _, _ => by
    intro us
    rw [unifL]
    · exact Refines.id.weaken (fun _ _ _ _ _ _ _ => rfl) us
    · intros; simp_all
  | c :: cs, o :: os, h, hl => by
    intro us
    rw [unifL]
    exact ((unifL_spec C vf cs os (fun c' h' => h c' (List.mem_cons_of_mem _ h')) (by simpa using hl)).comp
      ((h c List.mem_cons_self).refines o) Sat.isMono).weaken (fun r e σ he hd ρ F => by
        simp only [substL, evalL, e.1 σ he hd ρ F, e.2 σ he hd ρ F]) us
  | [], _ :: _, _, hl | _ :: _, [], _, hl => by simp at hl

theorem unifK_spec (C : List Name) (vf : Name → Name → Bool) : ∀ (cs os : List (Name × Expr)),
    (∀ p ∈ cs, Sound C vf p.2) → cs.map (·.1) = os.map (·.1) →
    Refines C (unifK C vf cs os) (fun r => ∀ σ, Extends r σ → DomC C σ → ∀ ρ F,
      evalK ρ F (substK σ cs) = evalK ρ F os)
  | [], [], _, _ => by
    intro us
    rw [unifK]
    · exact Refines.id.weaken (fun _ _ _ _ _ _ _ => rfl) us
    · intros; simp_all
  | (kc, c) :: cs, (ko, o) :: os, h, hl => by
    intro us
    simp only [List.map_cons, List.cons.injEq] at hl
    rw [unifK]
    exact ((unifK_spec C vf cs os (fun c' h' => h c' (List.mem_cons_of_mem _ h')) hl.2).comp
      ((h (kc, c) List.mem_cons_self).refines o) Sat.isMono).weaken (fun r e σ he hd ρ F => by
        simp only [substK, evalK, e.1 σ he hd ρ F, e.2 σ he hd ρ F, hl.1]) us
  | [], _ :: _, _, hl | _ :: _, [], _, hl => by simp at hl

theorem wfTL_iff {cs : List Expr} : wfTL cs = true ↔ ∀ c ∈ cs, wfT c = true := by
  induction cs with
  | nil => simp [wfTL]
  | cons x xs ih => simp [wfTL, ih]

theorem wfTK_iff {kw : List (Name × Expr)} : wfTK kw = true ↔ ∀ p ∈ kw, wfT p.2 = true := by
  induction kw with
  | nil => simp [wfTK]
  | cons x xs ih => simp [wfTK, ih]

theorem unif_sound (C : List Name) (vf : Name → Name → Bool) (t : Expr) : wfT t = true → Sound C vf t := by
  induction t using Expr.induction with
  | const c =>
    intro _ o us r hus hr
    rw [unif] at hr
    split at hr
    · rename_i hb
      refine ⟨⟨r, hr, Ext.refl _⟩, hus r hr, fun σ _ _ ρ F => ?_⟩
      rw [← beq_eq _ _ hb]; simp [subst]
    · simp at hr
  | var x =>
    intro _ o us
    rw [unif]
    refine (unifVar_spec C x o).weaken (fun r e3 σ he hd ρ F => ?_) us
    rcases e3 with ⟨_, hl⟩ | ⟨hc, ho⟩
    · simp [subst, he _ _ hl]
    · simp [subst, hd x hc, ho]
  | sum cs ih | prod cs ih =>
    intro hw o us
    simp only [wfT, Bool.and_eq_true] at hw
    rw [unif]
    exact unifAC_spec C vf _ cs o (fun c hc => ih c hc (wfTL_iff.mp hw.2 c hc)) (by intro h; simp [h] at hw) us
  | quot a b iha ihb | pow a b iha ihb | sub a b iha ihb =>
    intro hw o
    simp only [wfT, Bool.and_eq_true] at hw
    unfold unif
    split
    · exact (((iha hw.1).refines _).comp ((ihb hw.2).refines _) Sat.isMono).weaken
        fun r ⟨e3, e4⟩ σ he hd ρ F => by simp only [subst, evalZ, e3 σ he hd ρ F, e4 σ he hd ρ F]
    · exact Refines.nil
  | cmp op a b iha ihb =>
    intro hw o
    simp only [wfT, Bool.and_eq_true] at hw
    unfold unif
    split
    · exact Refines.ite (fun hop => (((iha hw.1).refines _).comp ((ihb hw.2).refines _) Sat.isMono).weaken
        fun r ⟨e3, e4⟩ σ he hd ρ F => by simp only [subst, evalZ, e3 σ he hd ρ F, e4 σ he hd ρ F, hop]) fun _ => .nil
    · exact Refines.nil
  | attr a nm iha =>
    intro hw o
    simp only [wfT] at hw
    unfold unif
    split
    · exact Refines.ite (fun hnm => ((iha hw).refines _).weaken
        fun r e3 σ he hd ρ F => by simp only [subst, evalZ, e3 σ he hd ρ F, hnm]) fun _ => .nil
    · exact Refines.nil
  | lnot a iha =>
    intro hw o
    simp only [wfT] at hw
    unfold unif
    split
    · exact ((iha hw).refines _).weaken fun r e3 σ he hd ρ F => by simp only [subst, evalZ, e3 σ he hd ρ F]
    · exact Refines.nil
  | ite c t e ihc iht ihe =>
    intro hw o
    simp only [wfT, Bool.and_eq_true] at hw
    unfold unif
    split
    · exact (((ihc hw.1.1).refines _).comp (((iht hw.1.2).refines _).comp ((ihe hw.2).refines _) Sat.isMono)
          fun h ⟨h1, h2⟩ => ⟨Sat.isMono h h1, Sat.isMono h h2⟩).weaken
        fun r ⟨e1, e2, e3⟩ σ he hd ρ F => by simp only [subst, evalZ, e1 σ he hd ρ F, e2 σ he hd ρ F, e3 σ he hd ρ F]
    · exact Refines.nil
  | call f args kw iha ihk =>
    intro hw o
    simp only [wfT, Bool.and_eq_true] at hw
    unfold unif
    split
    · rename_i g args' kw'
      refine Refines.ite (fun _ => .nil) fun _ => Refines.ite (fun _ => .nil) fun hlen =>
        Refines.ite (fun _ => .nil) fun hkeys => ?_
      simp only [keysEq, Bool.not_eq_true', Bool.not_eq_false, bne_iff_ne, ne_eq, Decidable.not_not,
        beq_iff_eq] at hkeys hlen
      have hA := unifL_spec C vf args args' (fun c hc => iha c hc (wfTL_iff.mp hw.1 c hc)) hlen
      have hK := unifK_spec C vf kw kw' (fun p hp => ihk p hp (wfTK_iff.mp hw.2 p hp)) hkeys
      refine ((unifVar_spec C f (.var g)).comp (hK.comp hA fun h e σ he => e σ (he.mono h))
        fun h ⟨e1, e2⟩ => ⟨fun σ he => e1 σ (he.mono h), fun σ he => e2 σ (he.mono h)⟩).weaken
        fun r ⟨e3, g3, f3⟩ σ he hd ρ F => ?_
      have hf : substF σ f = g := by
        unfold substF
        rcases e3 with ⟨_, hl⟩ | ⟨hc, ho⟩
        · simp [he _ _ hl]
        · simp at ho; simp [hd f hc, ho]
      simp only [subst, evalZ, hf, f3 σ he hd ρ F, g3 σ he hd ρ F]
    · exact Refines.nil
  | land cs | lor cs | min cs | max cs => intro _ o; unfold unif; exact Refines.nil

end Dagrt.Match
