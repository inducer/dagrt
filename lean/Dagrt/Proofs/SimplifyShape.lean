import Dagrt.Proofs.Simplify
/-!
Shape of the simplified tree: pass 1 removes every `if` without `else`, pass 2 introduces none,
and on such a tree pass 3 returns null or a tree without any null, which the walker accepts.
-/
namespace Dagrt.Simplify

theorem pre_noIfThen (a : Ast) : noIfThen (pre a) = true := by
  induction a using Ast.induction with
  | leaf | null => simp [pre, noIfThen]
  | ifThen _ _ ih | loop _ _ ih => simp [pre, noIfThen, ih]
  | ite c t e iht ihe => simp [pre, noIfThen, iht, ihe]
  | block cs ih => simpa [pre, noIfThen, noIfThenList_eq, preList_eq] using ih

theorem preList_noIfThen : ∀ cs : List Ast, noIfThenList (preList cs) = true := by
  simp [noIfThenList_eq, preList_eq, pre_noIfThen]

theorem noIfThenList_append (a b : List Ast) :
    noIfThenList (a ++ b) = (noIfThenList a && noIfThenList b) := by
  simp [noIfThenList_eq]

theorem noIfThenList_flatItems (x : Ast) : noIfThenList (flatItems x) = noIfThen x := by
  cases x <;> simp [flatItems, noIfThen, noIfThenList]

theorem noIfThen_flatBlock (ns : List Ast) : noIfThen (flatBlock ns) = noIfThenList ns := by
  rw [flatBlock_eq, noIfThen]
  induction ns with
  | nil => rfl
  | cons n ns ih => simp [noIfThenList_append, noIfThenList_flatItems, noIfThenList, ih]

theorem noIfThenList_snoc (acc : List Ast) (cur : Ast) (ha : noIfThenList acc = true)
    (hc : noIfThen cur = true) : noIfThenList (acc ++ [cur]) = true := by
  simp [noIfThenList_append, noIfThenList, ha, hc]

theorem mergeLoop_noIfThen (fuel : Nat) (cur : Ast) (q acc : List Ast)
    (hc : noIfThen cur = true) (hq : noIfThenList q = true) (ha : noIfThenList acc = true) :
    noIfThenList (mergeLoop fuel cur q acc) = true := by
  -- cases as in `mergeLoop_trace`
  fun_induction mergeLoop fuel cur q acc with
  | case1 | case2 => exact noIfThenList_snoc _ _ ha hc
  | case3 f cur q acc ih =>
    simp only [noIfThenList, Bool.and_eq_true] at hq
    exact ih hc hq.2 ha
  | case4 f cur q acc cs ih =>
    simp only [noIfThenList, noIfThen, Bool.and_eq_true] at hq
    exact ih hc (by simp [noIfThenList_append, hq]) ha
  | case5 f q acc t2 e2 c t1 e1 ih =>
    simp only [noIfThenList, noIfThen, Bool.and_eq_true] at hq hc
    exact ih (by simp [noIfThen, noIfThen_flatBlock, noIfThenList, hc, hq]) hq.2 ha
  | case6 _ _ _ _ _ _ _ _ _ _ ih | case7 _ _ _ _ _ _ _ _ ih | case8 _ _ _ _ _ _ _ _ ih =>
    simp only [noIfThenList, Bool.and_eq_true] at hq
    exact ih hq.1 hq.2 (noIfThenList_snoc _ _ ha hc)

theorem stripNot_noIfThen (c : Cond) (t e : Ast) (ht : noIfThen t = true) (he : noIfThen e = true) :
    noIfThen (stripNot c t e).2.1 = true ∧ noIfThen (stripNot c t e).2.2 = true := by
  induction c generalizing t e with
  | not c ih =>
    simp only [stripNot]
    exact ih e t he ht
  | tt | ff | flag => simp [stripNot, ht, he]

theorem collapse_noIfThen (c : Cond) (t : Ast) (h : noIfThen t = true) :
    noIfThen (collapseT c t) = true ∧ noIfThen (collapseE c t) = true := by
  cases t <;> simp_all [collapseT, collapseE, noIfThen]
  split <;> simp_all [noIfThen]

theorem noIfThenList_dropWhile (l : List Ast) (h : noIfThenList l = true) :
    noIfThenList (l.dropWhile isNull) = true := by
  simp only [noIfThenList_eq, List.all_eq_true] at h ⊢
  exact fun a ha => h a ((List.dropWhile_sublist isNull).subset ha)

theorem simpD_noIfThen (a : Ast) : noIfThen a = true → noIfThen (simpD a) = true := by
  induction a using Ast.induction with
  | leaf | null => exact id
  | ifThen c t ih => simp [noIfThen]
  | loop x b ih => simpa [simpD_loop, noIfThen] using ih
  | ite c t e iht ihe =>
    intro hn
    simp only [noIfThen, Bool.and_eq_true] at hn
    have hs := stripNot_noIfThen c _ _ (iht hn.1) (ihe hn.2)
    rw [simpD_ite]
    split
    · exact iht hn.1
    · split
      · exact ihe hn.2
      · simp only [noIfThen, Bool.and_eq_true]
        exact ⟨(collapse_noIfThen _ _ hs.1).1, (collapse_noIfThen _ _ hs.2).2⟩
  | block cs ih =>
    intro hn
    have hq : noIfThenList ((cs.map simpD).dropWhile isNull) = true := by
      apply noIfThenList_dropWhile
      simp only [noIfThen, noIfThenList_eq, List.all_eq_true] at hn
      simpa [noIfThenList_eq] using fun a ha => ih a ha (hn a ha)
    rw [simpD_block]
    generalize cs.map simpD = q at hq
    split
    · rfl
    · split
      · rfl
      · rename_i cur rest hcr
        simp only [hcr, noIfThenList, Bool.and_eq_true] at hq
        have hm := mergeLoop_noIfThen (2 * sizeList q + 2) cur rest [] hq.1 hq.2 rfl
        split
        · rename_i c hc
          simpa [hc, noIfThenList] using hm
        · simpa [noIfThen] using hm

theorem simpList_noIfThen : ∀ (cs q : List Ast), noIfThenList cs = true → simpList cs = .ok q →
    noIfThenList q = true := by
  intro cs q hn h
  simp only [noIfThenList_eq, List.all_eq_true] at hn
  simpa [map_simpD_of_ok h, noIfThenList_eq] using fun a ha => simpD_noIfThen a (hn a ha)

theorem noNull_of_shape {a : Ast} (h : isNull a = true ∨ noNull a = true) (hn : isNull a = false) :
    noNull a = true := by
  simp_all

theorem post_shape (a : Ast) : noIfThen a = true → isNull (post a) = true ∨ noNull (post a) = true := by
  induction a using Ast.induction with
  | leaf n => simp [post, noNull]
  | null => simp [post, isNull]
  | ifThen c t ih => simp [noIfThen]
  | loop x b ih =>
    intro h
    have hb := ih h
    simp only [post]
    cases h1 : isNull (post b)
    · exact .inr (by simp [noNull, noNull_of_shape hb h1])
    · exact .inl rfl
  | ite c t e iht ihe =>
    intro h
    simp only [noIfThen, Bool.and_eq_true] at h
    have ht := iht h.1
    have he := ihe h.2
    simp only [post]
    cases h1 : isNull (post t) <;> cases h2 : isNull (post e)
    · exact .inr (by simp [noNull, noNull_of_shape ht h1, noNull_of_shape he h2])
    · exact .inr (by simp [noNull, noNull_of_shape ht h1])
    · exact .inr (by simp [noNull, noNull_of_shape he h2])
    · exact .inl rfl
  | block cs ih =>
    intro h
    simp only [noIfThen, noIfThenList_eq, List.all_eq_true] at h
    have hf : ∀ a ∈ (postList cs).filter (fun a => !isNull a), noNull a = true := by
      intro a ha
      simp only [postList_eq, List.mem_filter, List.mem_map] at ha
      obtain ⟨⟨b, hb, rfl⟩, hnn⟩ := ha
      cases ih b hb (h b hb) with
      | inl h' => simp [h'] at hnn
      | inr h' => exact h'
    simp only [post]
    generalize (postList cs).filter (fun a => !isNull a) = l at hf
    split
    · simp [isNull]
    · exact .inr (hf _ (by simp))
    · exact .inr (by simpa [noNull, noNullList_eq] using hf)

theorem postList_shape : ∀ cs : List Ast, noIfThenList cs = true →
    ∀ a ∈ postList cs, isNull a = true ∨ noNull a = true := by
  intro cs h
  simp only [noIfThenList_eq, List.all_eq_true] at h
  simp only [postList_eq, List.mem_map]
  rintro _ ⟨b, hb, rfl⟩
  exact post_shape b (h b hb)

theorem noNull_postTop {b : Ast} (hn : noIfThen b = true) : noNull (postTop b) = true := by
  have h := post_shape b hn
  unfold postTop
  cases hp : post b <;> simp_all [isNull, noNull, noNullList]

theorem walkList_some_of_forall {cs : List Ast} (h : ∀ a ∈ cs, ∃ evs, walk a = some evs) :
    ∃ evs, walkList cs = some evs := by
  induction cs with
  | nil => simp [walkList]
  | cons a as ih =>
    obtain ⟨x, hx⟩ := h a (by simp)
    obtain ⟨y, hy⟩ := ih (fun b hb => h b (by simp [hb]))
    simp [walkList, hx, hy]

theorem walk_total (a : Ast) : noNull a = true → ∃ evs, walk a = some evs := by
  induction a using Ast.induction with
  | leaf n => simp [walk]
  | null => simp [noNull]
  | ifThen _ _ ih | loop _ _ ih =>
    intro h
    obtain ⟨x, hx⟩ := ih h
    simp [walk, hx]
  | ite c t e iht ihe =>
    intro h
    simp only [noNull, Bool.and_eq_true] at h
    obtain ⟨x, hx⟩ := iht h.1
    obtain ⟨y, hy⟩ := ihe h.2
    simp [walk, hx, hy]
  | block cs ih =>
    intro h
    simp only [noNull, noNullList_eq, List.all_eq_true] at h
    simp only [walk]
    exact walkList_some_of_forall (fun a ha => ih a ha (h a ha))

theorem walkList_total : ∀ cs : List Ast, noNullList cs = true → ∃ evs, walkList cs = some evs := by
  intro cs h
  simp only [noNullList_eq, List.all_eq_true] at h
  exact walkList_some_of_forall (fun a ha => walk_total a (h a ha))

end Dagrt.Simplify
