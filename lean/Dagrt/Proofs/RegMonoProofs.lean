import Dagrt.Proofs.KindOrderProofs
import Dagrt.Model.Builtins
/-!
The hypothesis `RegMono` of the order-independence theorem (C14), discharged for the registry of the
simple built-ins plus functions with fixed result kinds (`regMono_simple`), and refuted for `matmul`
(`regMono_fails_matmul`).  `resolveArgs_mono`: `dagrt.utils.resolve_args` only looks at positions and
names, so better-known argument kinds resolve the same way.
-/
namespace Dagrt.Kinds

theorem argsLe_refl : ∀ l : List (Option Kind), ArgsLe l l
  | [] => .nil
  | a :: l => .cons (le_refl a) (argsLe_refl l)

theorem ksLe_refl : ∀ l : List Kind, KsLe l l
  | [] => .nil
  | _ :: l => .cons (le_refl _) (ksLe_refl l)

theorem kwLookup_mono {kk kk' : List (Name × Option Kind)} (h : KwLe kk kk') (n : Name) :
    (kwLookup kk n = none ∧ kwLookup kk' n = none) ∨
    ∃ v v', kwLookup kk n = some v ∧ kwLookup kk' n = some v' ∧ le v v' := by
  induction h with
  | nil => left; simp [kwLookup]
  | @cons m a b as bs hab _ ih =>
    by_cases hm : m = n
    · right; exact ⟨a, b, by simp [kwLookup, hm], by simp [kwLookup, hm], hab⟩
    · simpa [kwLookup, hm] using ih

theorem kwErase_mono {kk kk' : List (Name × Option Kind)} (h : KwLe kk kk') (n : Name) :
    KwLe (kwErase kk n) (kwErase kk' n) := by
  induction h with
  | nil => exact .nil
  | @cons m a b as bs hab _ ih =>
    unfold kwErase at ih ⊢
    by_cases hm : m = n
    · simpa [List.filter, hm] using ih
    · have : (m != n) = true := by simpa using hm
      simp only [List.filter, this]
      exact .cons hab ih

theorem resolveArgs_mono : ∀ (ns : List Name) (ak ak' : List (Option Kind)) (kk kk' : List (Name × Option Kind))
    (r : List (Option Kind)), ArgsLe ak ak' → KwLe kk kk' → resolveArgs ns ak kk = .ok r →
    ∃ r', resolveArgs ns ak' kk' = .ok r' ∧ ArgsLe r r' := by
  intro ns ak ak' kk kk' r ha hk h
  -- along the clauses of `resolveArgs`; `kwLookup_mono` says the look-up goes the same way in `kk'`
  fun_induction resolveArgs ns ak kk generalizing ak' kk' r with
  -- case1: nothing left on any side
  | case1 => cases ha; cases hk; cases h; exact ⟨[], rfl, .nil⟩
  -- the `TypeError`s - case2: arguments left over; case3: a name given both ways; case6: a missing argument
  | case2 | case3 | case6 => cases h
  -- case4: the name takes the next positional argument; case5: it is given by keyword
  | case4 n ns p ps kw hl ih =>
    cases ha with
    | cons hab has =>
      obtain ⟨r0, hr, h⟩ := bind_eq_ok h
      obtain ⟨r', hr', hle⟩ := ih _ kk' r0 has hk hr
      rcases kwLookup_mono hk n with ⟨_, h2⟩ | ⟨v, v', h1, _⟩
      · cases h; exact ⟨_ :: r', by simp [resolveArgs, h2, hr', bind, Except.bind], .cons hab hle⟩
      · cases hl.symm.trans h1
  | case5 n ns kw v hl ih =>
    cases ha
    obtain ⟨r0, hr, h⟩ := bind_eq_ok h
    rcases kwLookup_mono hk n with ⟨h1, _⟩ | ⟨v0, v', h1, h2, hv⟩
    · cases hl.symm.trans h1
    · cases hl.symm.trans h1
      obtain ⟨r', hr', hle⟩ := ih [] _ r0 .nil (kwErase_mono hk n) hr
      cases h; exact ⟨v' :: r', by simp [resolveArgs, h2, hr', bind, Except.bind], .cons hv hle⟩

/-- what `RegMono` asks of one function -/
def FnMono (fn : Bool → List (Option Kind) → List (Name × Option Kind) → Except KErr (List Kind)) : Prop :=
  ∀ ak ak' kk kk' ks, ArgsLe ak ak' → KwLe kk kk' → fn false ak kk = .ok ks → ∃ ks', fn false ak' kk' = .ok ks' ∧ KsLe ks ks'

theorem resolveArgs_bind_mono (names : List Name) (body : Bool → List (Option Kind) → Except KErr (List Kind))
    (hb : ∀ r r' ks, ArgsLe r r' → body false r = .ok ks → ∃ ks', body false r' = .ok ks' ∧ KsLe ks ks') :
    FnMono fun chk p k => resolveArgs names p k >>= body chk := by
  intro ak ak' kk kk' ks ha hk h
  obtain ⟨r, hr, h⟩ := bind_eq_ok h
  obtain ⟨r', hr', hle⟩ := resolveArgs_mono names ak ak' kk kk' r ha hk hr
  obtain ⟨ks', h', hks⟩ := hb r r' ks hle h
  exact ⟨ks', by simp only [hr', bind, Except.bind]; exact h', hks⟩

/-- a body that needs exactly one resolved argument and then answers a constant -/
theorem const1_mono (res : List Kind) (P : Option Kind → Bool) :
    ∀ r r' ks, ArgsLe r r' →
      (match r with | [x] => (do need false (P x); .ok res : Except KErr (List Kind)) | _ => .error .typeError) = .ok ks →
      ∃ ks', (match r' with | [x] => (do need false (P x); .ok res : Except KErr (List Kind)) | _ => .error .typeError) = .ok ks'
        ∧ KsLe ks ks' := by
  intro r r' ks hle h
  cases hle with
  | nil => simp at h
  | cons hab htl =>
    cases htl with
    | nil =>
      simp only [need, Bool.false_and, Bool.false_eq_true, if_false, bind, Except.bind, Except.ok.injEq] at h ⊢
      subst h
      exact ⟨res, rfl, ksLe_refl res⟩
    | cons _ _ => simp at h

theorem const2_mono (res : List Kind) (P Q : Option Kind → Bool) :
    ∀ r r' ks, ArgsLe r r' →
      (match r with | [x, y] => (do need false (P x); need false (Q y); .ok res : Except KErr (List Kind))
                    | _ => .error .typeError) = .ok ks →
      ∃ ks', (match r' with | [x, y] => (do need false (P x); need false (Q y); .ok res : Except KErr (List Kind))
                            | _ => .error .typeError) = .ok ks' ∧ KsLe ks ks' := by
  intro r r' ks hle h
  cases hle with
  | nil => simp at h
  | cons hab htl =>
    cases htl with
    | nil => simp at h
    | cons _ htl2 =>
      cases htl2 with
      | nil =>
        simp only [need, Bool.false_and, Bool.false_eq_true, if_false, bind, Except.bind, Except.ok.injEq] at h ⊢
        subst h
        exact ⟨res, rfl, ksLe_refl res⟩
      | cons _ _ => simp at h

theorem abs_mono :
    ∀ r r' ks, ArgsLe r r' →
      (match r with
        | [some (.user i)] => (.ok [.user i] : Except KErr (List Kind))
        | [some (.array _)] => .ok [.array true]
        | [some (.scalar _)] => .ok [.scalar true]
        | _ => .error .typeError) = .ok ks →
      ∃ ks', (match r' with
        | [some (.user i)] => (.ok [.user i] : Except KErr (List Kind))
        | [some (.array _)] => .ok [.array true]
        | [some (.scalar _)] => .ok [.scalar true]
        | _ => .error .typeError) = .ok ks' ∧ KsLe ks ks' := by
  intro r r' ks hle h
  cases hle with
  | nil => simp at h
  | @cons a b as bs hab htl =>
    cases htl with
    | cons _ _ => cases a with | none => simp at h | some k => cases k <;> simp at h
    | nil =>
      -- `elementwise_abs` keeps the shape of its argument, and a kind above has the same shape or one above
      match a, b, hab with
      | none, _, _ => simp at h
      | some ka, none, hab => exact absurd hab (le_some_none ka)
      | some ka, some kb, hab =>
        cases ka <;> simp at h <;> subst h <;> cases kb <;> simp [le, unify] at hab <;>
          exact ⟨_, rfl, .cons (by simp [le, unify, *]) .nil⟩

theorem regMono_simple (fixed : List (Name × List Kind)) : RegMono (mkRegistrySimple fixed) := by
  intro f fn hf
  unfold mkRegistrySimple at hf
  split at hf
  · cases hf
  · rename_i hheavy
    rcases mkRegistry_some hf with hb | ⟨ks0, _, rfl⟩
    · -- along the chain of `builtin`; `matmul`, `linear_solve`, `transpose` and `svd` are not in this registry
      have out : ∀ {Q : Prop} {g : Name}, f = g → heavy g = true → Q := fun e hg => absurd (e ▸ hg) hheavy
      change FnMono fn
      unfold builtin at hb
      exact ite_some_elim hb (fun _ => resolveArgs_bind_mono _ _ (const1_mono _ _)) fun _ hb =>
        ite_some_elim hb (fun _ => resolveArgs_bind_mono _ _ (const1_mono _ _)) fun _ hb =>
        ite_some_elim hb (fun _ => resolveArgs_bind_mono _ _ abs_mono) fun _ hb =>
        ite_some_elim hb (fun _ => resolveArgs_bind_mono _ _ (const2_mono _ _ _)) fun _ hb =>
        ite_some_elim hb (fun _ => resolveArgs_bind_mono _ _ (const1_mono _ _)) fun _ hb =>
        ite_some_elim hb (fun _ => resolveArgs_bind_mono _ _ (const1_mono _ _)) fun _ hb =>
        ite_some_elim hb (fun c => c.elim (out · rfl) (out · rfl)) fun _ hb =>
        ite_some_elim hb (out · rfl) fun _ hb =>
        ite_some_elim hb (out · rfl) fun _ hb =>
        ite_some_elim hb (fun _ => resolveArgs_bind_mono _ _ (const1_mono _ _)) fun _ hb => nomatch hb
    · intro ak ak' kk kk' ks _ _ hfn
      cases hfn
      exact ⟨_, rfl, ksLe_refl _⟩

/-- …and the restriction is needed: `matmul` answers for a scalar argument (in the loop's mode nothing
    is checked) but raises `AttributeError` for the user type that the scalar may later be refined to -/
theorem regMono_fails_matmul : ¬ RegMono (mkRegistry []) := by
  intro h
  cases hb : builtin "<builtin>matmul" with
  | none => simp [builtin] at hb
  | some fn =>
    have h1 : fn false [some (.scalar true), some (.scalar true), some (.scalar true), some (.scalar true)] []
        = .ok [.array true] := by
      simp [builtin] at hb; subst hb; decide
    have h2 : fn false [some (.user "y"), some (.scalar true), some (.scalar true), some (.scalar true)] []
        = .error .attributeError := by
      simp [builtin] at hb; subst hb; decide
    have hle : le (some (Kind.scalar true)) (some (Kind.user "y")) := Or.inr (by simp [unify])
    obtain ⟨ks', h', _⟩ := h "<builtin>matmul" fn (by simp [mkRegistry, hb])
      [some (.scalar true), some (.scalar true), some (.scalar true), some (.scalar true)]
      [some (.user "y"), some (.scalar true), some (.scalar true), some (.scalar true)] [] [] _
      (.cons hle (argsLe_refl _)) .nil h1
    rw [h2] at h'
    cases h'

end Dagrt.Kinds
