import Dagrt.Proofs.RtProofs
import Dagrt.Proofs.KindLoopProofs
import Dagrt.Model.Builtins
/-!
Call statements (C09): storing results one by one keeps the table a description of the store; the
final consistency pass of the inference (`finalCheck`) has counted assignees against results; every
built-in has a fixed number of results (`builtin_arity`: `arityB`), whatever its arguments.
-/
namespace Dagrt.Kinds
open Dagrt

theorem outCompat_length : ∀ (rs : List Rt) (ks : List Kind), OutCompat rs ks → rs.length = ks.length
  | [], [], _ => rfl
  | [], _ :: _, h => by simp [OutCompat] at h
  | _ :: _, [], h => by simp [OutCompat] at h
  | _ :: rs, _ :: ks, h => by
    simp only [OutCompat] at h
    simp [outCompat_length rs ks h.2]

theorem tableCompat_update {t : Table} {ph : Name} {ρ : Name → Rt} (hT : TableCompat t ph ρ) {x : Name} {v : Rt}
    (hv : ∀ k, lookupVar t ph x = some k → compat v k = true) :
    TableCompat t ph (fun y => if y = x then v else ρ y) := by
  intro y ky hy
  by_cases hyx : y = x
  · subst hyx; simpa using hv ky hy
  · simpa [hyx] using hT y ky hy

theorem assignZip_compat (t : Table) (ph : Name) : ∀ (lhs : List Name) (rs : List Rt) (ks : List Kind)
    (ρ : Name → Rt), TableCompat t ph ρ → OutCompat rs ks →
    (∀ p ∈ zipNK lhs ks, ∀ k', lookupVar t ph p.1 = some k' → le (some p.2) (some k')) →
    TableCompat t ph (assignZip ρ lhs rs)
  | [], _, _, ρ, hT, _, _ => by simpa [assignZip] using hT
  | _ :: _, [], _, ρ, hT, _, _ => by simpa [assignZip] using hT
  | _ :: _, _ :: _, [], _, _, h, _ => by simp [OutCompat] at h
  | x :: xs, r :: rs, k0 :: ks, ρ, hT, h, hpost =>
    assignZip_compat t ph xs rs ks _
      (tableCompat_update hT fun k hk => compat_le r k0 k h.1 (hpost (x, k0) (by simp [zipNK]) k hk))
      h.2 (fun q hq => hpost q (by simp [zipNK, hq]))

theorem execCallRt_eq {F : RtFuns} {ρ : Name → Rt} {lhs : List Name} {f : Name} {args : List Expr}
    {kw : List (Name × Expr)} (h : (F f (rtEvalL F ρ args) (rtEvalK F ρ kw)).length = lhs.length) :
    execCallRt F ρ lhs f args kw = assignZip ρ lhs (F f (rtEvalL F ρ args) (rtEvalK F ρ kw)) := by
  unfold execCallRt
  generalize F f (rtEvalL F ρ args) (rtEvalK F ρ kw) = rs at h ⊢
  match lhs, rs, h with
  | [], _, _ => simp [assignZip]
  | [x], [r], _ => rfl
  | _ :: _ :: _, _, h => simp [h]

/-- the final consistency pass accepted every call statement: as many assignees as results -/
theorem finalCheck_count (reg : Registry) (t : Table) : ∀ (prog : List (Name × KStmt)),
    finalCheck reg t prog = .ok () → ∀ ph lhs f args kw, (ph, KStmt.callAssign lhs f args kw) ∈ prog →
    ∃ ks', inferCall true reg t ph f args kw = .ok ks' ∧ ks'.length = lhs.length := by
  intro prog h ph lhs f args kw hm
  fun_induction finalCheck reg t prog with
  | case1 => cases hm
  -- case2 / case4: inference of an assignment / a call fails; case5: assignees and results differ in number
  | case2 | case4 | case5 => cases h
  -- case3: an assignment passes; case7: another statement; case6: a call statement passes
  | case3 _ _ _ _ _ _ _ _ _ ih | case7 _ _ ih =>
    rcases List.mem_cons.mp hm with hm | hm
    · cases hm
    · exact ih h hm
  | case6 _ _ _ _ _ _ ks hi hb ih =>
    rcases List.mem_cons.mp hm with hm | hm
    · cases hm
      exact ⟨ks, hi, by simpa using hb⟩
    · exact ih h hm

/-- `need` either passes or raises: it never changes what follows -/
theorem need_bind_ok {chk b : Bool} {rest : Except KErr (List Kind)} {r : List Kind}
    (h : (do need chk b; rest) = .ok r) : rest = .ok r := by
  obtain ⟨_, _, h⟩ := bind_eq_ok h
  exact h

/-- `fn` has `n` results whenever it has any -/
def Returns (n : Nat) (fn : Bool → List (Option Kind) → List (Name × Option Kind) → Except KErr (List Kind)) : Prop :=
  ∀ chk p k r, fn chk p k = .ok r → r.length = n

theorem resolveArgs_bind_len (names : List Name) (body : Bool → List (Option Kind) → Except KErr (List Kind)) (n : Nat)
    (hb : ∀ chk l r, body chk l = .ok r → r.length = n) : Returns n fun chk p k => resolveArgs names p k >>= body chk := by
  intro chk p k r h
  obtain ⟨l, _, h⟩ := bind_eq_ok h
  exact hb chk l r h

/-- one argument, one check, a constant answer: the body of most built-ins -/
theorem need1_len (chk : Bool) (res : List Kind) (P : Option Kind → Bool) : ∀ (l : List (Option Kind)) (r : List Kind),
    (match l with
      | [x] => (do need chk (P x); .ok res : Except KErr (List Kind))
      | _ => .error .typeError) = .ok r → r.length = res.length := by
  intro l r hl
  split at hl
  · cases need_bind_ok hl; rfl
  · cases hl

/-- a matrix and its column count, two checks, an answer as real as the matrix: `transpose`, `svd` -/
theorem need2_len (chk : Bool) (g : Bool → List Kind) (n : Nat) (hg : ∀ b, (g b).length = n) :
    ∀ (l : List (Option Kind)) (r : List Kind),
    (match l with
      | [a, ac] =>
        (match a with
        | none => .error .unable
        | _ => do need chk (isArrayK a); need chk (isScalarK ac); let b ← realOf a; .ok (g b) : Except KErr (List Kind))
      | _ => .error .typeError) = .ok r → r.length = n := by
  intro l r hl
  split at hl
  · split at hl
    · cases hl
    · obtain ⟨b, _, h⟩ := bind_eq_ok (need_bind_ok (need_bind_ok hl))
      cases h
      exact hg b
  · cases hl

def arityB (f : Name) : Nat :=
  if f = "<builtin>svd" then 3 else if f = "<builtin>print" then 0 else 1

theorem builtin_arity (f : Name) (fn : Bool → List (Option Kind) → List (Name × Option Kind) → Except KErr (List Kind))
    (hb : builtin f = some fn) : Returns (arityB f) fn := by
  unfold builtin at hb
  -- along the chain of `builtin`; in each branch `c` says which name `f` is, hence what `arityB f` is
  refine ite_some_elim hb (fun c => ?_) fun _ hb => ite_some_elim hb (fun c => ?_) fun _ hb =>
    ite_some_elim hb (fun c => ?_) fun _ hb => ite_some_elim hb (fun c => ?_) fun _ hb =>
    ite_some_elim hb (fun c => ?_) fun _ hb => ite_some_elim hb (fun c => ?_) fun _ hb =>
    ite_some_elim hb (fun c => ?_) fun _ hb => ite_some_elim hb (fun c => ?_) fun _ hb =>
    ite_some_elim hb (fun c => ?_) fun _ hb => ite_some_elim hb (fun c => ?_) fun _ hb => nomatch hb
  · rw [show arityB f = 1 by rcases c with rfl | rfl | rfl <;> simp [arityB]]
    exact resolveArgs_bind_len _ _ _ fun chk => need1_len chk _ _
  · rw [show arityB f = 1 by simp [arityB, c]]
    exact resolveArgs_bind_len _ _ _ fun chk => need1_len chk _ _
  · rw [show arityB f = 1 by simp [arityB, c]]
    refine resolveArgs_bind_len _ _ 1 fun _ l r hl => ?_
    split at hl <;> simp at hl <;> subst hl <;> rfl
  · rw [show arityB f = 1 by simp [arityB, c]]
    refine resolveArgs_bind_len _ _ 1 fun chk l r hl => ?_
    split at hl
    · cases need_bind_ok (need_bind_ok hl); rfl
    · cases hl
  · rw [show arityB f = 1 by simp [arityB, c]]
    exact resolveArgs_bind_len _ _ _ fun chk => need1_len chk _ _
  · rw [show arityB f = 1 by simp [arityB, c]]
    exact resolveArgs_bind_len _ _ _ fun chk => need1_len chk _ _
  · rw [show arityB f = 1 by rcases c with rfl | rfl <;> simp [arityB]]
    refine resolveArgs_bind_len _ _ 1 fun chk l r hl => ?_
    split at hl
    · split at hl
      · cases hl
      · cases hl
      · obtain ⟨_, _, h4⟩ := bind_eq_ok (need_bind_ok (need_bind_ok (need_bind_ok (need_bind_ok hl))))
        cases h4
        rfl
    · cases hl
  · rw [show arityB f = 1 by simp [arityB, c]]
    exact resolveArgs_bind_len _ _ _ fun chk => need2_len chk _ 1 (fun _ => rfl)
  · rw [show arityB f = 3 by simp [arityB, c]]
    exact resolveArgs_bind_len _ _ _ fun chk => need2_len chk _ 3 (fun _ => rfl)
  · rw [show arityB f = 0 by simp [arityB, c]]
    exact resolveArgs_bind_len _ _ _ fun chk => need1_len chk _ _

end Dagrt.Kinds
