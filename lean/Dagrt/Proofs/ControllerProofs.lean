import Dagrt.Model.Controller
/-!
C04, the `update_plan` half: what one `add_with_deps` and one loop over dependencies do to the plan
(`Spec`, `addWithDeps_spec`, `addList_spec`).  `Inv` and `LogOK` are stated here and used in
`Props/C04.lean`, where the pop-execute loop is (it rests on two of the plan theorems proved there).
-/
namespace Dagrt.Controller

def depsOf (g : Graph) (i : Nat) : List Nat := (g i).getD []

/-- every element of the list has its dependencies executed or earlier in the list -/
def DepsFirst (g : Graph) (executed : List Nat) (l : List Nat) : Prop :=
  ∀ pre x post, l = pre ++ x :: post → ∀ d ∈ depsOf g x, d ∈ executed ∨ d ∈ pre

/-- well-formed phase, a HYPOTHESIS of C04: dependencies resolve, and a rank function bounded by `n`
    exists (`n + 1` is the fuel `updatePlan` gives the recursion).  For accepted methods
    `C10.accept_implies_consumers_safe` gives resolved look-ups and a rank function; that a rank
    function of a finite acyclic graph can be taken below the number of statements is not proved. -/
structure WF (g : Graph) (n : Nat) (r : Nat → Nat) : Prop where
  closed : ∀ i, (g i).isSome → ∀ d ∈ depsOf g i, (g d).isSome
  decr : ∀ i, ∀ d ∈ depsOf g i, r d < r i
  bound : ∀ i, (g i).isSome → r i < n

structure Inv (g : Graph) (s : St) : Prop where
  nodup : s.plan.Nodup
  disj : ∀ x ∈ s.plan, x ∉ s.executed
  depsFirst : DepsFirst g s.executed s.plan
  known : ∀ x ∈ s.plan, (g x).isSome

/-- the visit log: no statement twice, each after all its dependencies -/
def LogOK (g : Graph) (log : List Nat) : Prop := log.Nodup ∧ DepsFirst g [] log

theorem depsFirst_nil (g : Graph) (ex : List Nat) : DepsFirst g ex [] := by
  intro pre x post h; simp at h

theorem mem_cons_or {d x : Nat} {a b : List Nat} : d ∈ x :: a ∨ d ∈ b ↔ d ∈ a ∨ d ∈ x :: b := by
  simp [or_assoc, or_left_comm]

theorem depsFirst_mono {g : Graph} {ex ex' l : List Nat} (h : DepsFirst g ex l) (hs : ∀ d ∈ ex, d ∈ ex') :
    DepsFirst g ex' l :=
  fun pre x post heq d hd => (h pre x post heq d hd).imp_left (hs d)

/-- `DepsFirst` read along the list: the head's dependencies are executed, and the tail may rely on the head too -/
theorem depsFirst_cons {g : Graph} {ex l : List Nat} {x : Nat} :
    DepsFirst g ex (x :: l) ↔ (∀ d ∈ depsOf g x, d ∈ ex) ∧ DepsFirst g (x :: ex) l := by
  constructor
  · intro h
    refine ⟨fun d hd => (h [] x l rfl d hd).resolve_right List.not_mem_nil, fun pre y post heq d hd => ?_⟩
    exact mem_cons_or.mpr (h (x :: pre) y post (congrArg (x :: ·) heq) d hd)
  · rintro ⟨h1, h2⟩ pre y post heq d hd
    cases pre with
    | nil =>
      obtain ⟨rfl, -⟩ := List.cons.inj heq
      exact Or.inl (h1 d hd)
    | cons a pre =>
      obtain ⟨rfl, heq'⟩ := List.cons.inj heq
      exact mem_cons_or.mp (h2 pre y post heq' d hd)

/-- concatenation: the second part may also rely on the whole first part -/
theorem depsFirst_append {g : Graph} {ex ex' a b : List Nat} (ha : DepsFirst g ex a) (hb : DepsFirst g ex' b)
    (hs : ∀ d ∈ ex', d ∈ ex ∨ d ∈ a) : DepsFirst g ex (a ++ b) := by
  induction a generalizing ex with
  | nil => exact depsFirst_mono hb fun d hd => (hs d hd).resolve_right List.not_mem_nil
  | cons y a ih =>
    obtain ⟨h1, h2⟩ := depsFirst_cons.mp ha
    exact depsFirst_cons.mpr ⟨h1, ih h2 fun d hd => mem_cons_or.mpr (hs d hd)⟩

theorem depsFirst_append_singleton {g : Graph} {ex l : List Nat} {x : Nat}
    (h : DepsFirst g ex l) (hx : ∀ d ∈ depsOf g x, d ∈ ex ∨ d ∈ l) : DepsFirst g ex (l ++ [x]) :=
  depsFirst_append h (depsFirst_cons.mpr ⟨fun d hd => List.mem_append.mpr (hx d hd), depsFirst_nil g _⟩)
    (fun _ => List.mem_append.mp)

/-- filtering: what is removed (`rm`) has to be supplied to the statements that stay -/
theorem depsFirst_filter {g : Graph} {ex rm l : List Nat} (p : Nat → Bool) (h : DepsFirst g ex l)
    (hrm : ∀ x ∈ l, p x = false → x ∈ rm) : DepsFirst g (ex ++ rm) (l.filter p) := by
  induction l generalizing ex with
  | nil => exact depsFirst_nil g _
  | cons x l ih =>
    obtain ⟨h1, h2⟩ := depsFirst_cons.mp h
    have ih : DepsFirst g (x :: (ex ++ rm)) (l.filter p) := ih h2 fun y hy => hrm y (List.mem_cons_of_mem _ hy)
    rw [List.filter_cons]
    cases hp : p x with
    | true => exact depsFirst_cons.mpr ⟨fun d hd => List.mem_append_left _ (h1 d hd), ih⟩
    | false =>
      refine depsFirst_mono ih fun d hd => ?_
      rcases List.mem_cons.mp hd with rfl | hd
      · exact List.mem_append_right _ (hrm d List.mem_cons_self hp)
      · exact hd

theorem erase_eq_filter {l : List Nat} (h : l.Nodup) (a : Nat) :
    l.erase a = l.filter (fun x => decide (x ∉ [a])) := by
  rw [List.Nodup.erase_eq_filter h]
  apply List.filter_congr
  intro x _; simp [bne]; cases h : (x == a) <;> simp_all

theorem filter_filter_app (l e f : List Nat) :
    (l.filter (fun x => decide (x ∉ e))).filter (fun x => decide (x ∉ f)) =
      l.filter (fun x => decide (x ∉ e ++ f)) := by
  rw [List.filter_filter]; apply List.filter_congr; intro x _; simp [Bool.and_comm]

/-- what one `add_with_deps` / one dependency loop does to the pair (old plan, early plan):
    `e` = the statements appended to the early plan.  `ext` says, in this order: the early plan grows
    by `e`; the old plan loses `e`; the ranks of `e` satisfy `rankBound`; `e` is disjoint from `ex`;
    from the early plan so far; has no duplicates; holds known ids only.  `rankBound` is what keeps the
    statement being added (of larger rank than its dependencies) out of what its dependencies append. -/
structure Spec (g : Graph) (ex : List Nat) (r : Nat → Nat) (u u' : UP) (rankBound : Nat → Prop)
    (targets : List Nat) : Prop where
  ext : ∃ e, u'.early = u.early ++ e ∧ u'.plan = u.plan.filter (fun x => decide (x ∉ e)) ∧
        (∀ x ∈ e, rankBound (r x)) ∧ (∀ x ∈ e, x ∉ ex) ∧ (∀ x ∈ e, x ∉ u.early) ∧ e.Nodup ∧
        (∀ x ∈ e, (g x).isSome)
  reached : ∀ t ∈ targets, t ∈ ex ∨ t ∈ u'.early
  earlyOK : DepsFirst g ex u.early → DepsFirst g ex u'.early

theorem Spec.refl {g : Graph} {ex : List Nat} {r : Nat → Nat} {u : UP} {rb : Nat → Prop}
    {targets : List Nat} (h : ∀ t ∈ targets, t ∈ ex ∨ t ∈ u.early) : Spec g ex r u u rb targets :=
  ⟨⟨[], by simp, (List.filter_eq_self.mpr (by simp)).symm, by simp, by simp, by simp, by simp, by simp⟩, h, fun h => h⟩

theorem Spec.trans {g : Graph} {ex : List Nat} {r : Nat → Nat} {u u1 u2 : UP} {rb1 rb2 rb : Nat → Prop}
    {t1 t2 : List Nat}
    (h1 : Spec g ex r u u1 rb1 t1) (h2 : Spec g ex r u1 u2 rb2 t2)
    (hr1 : ∀ k, rb1 k → rb k) (hr2 : ∀ k, rb2 k → rb k) : Spec g ex r u u2 rb (t1 ++ t2) := by
  obtain ⟨e1, ha1, ha2, ha3, ha4, ha5, ha6, ha7⟩ := h1.ext
  obtain ⟨e2, hb1, hb2, hb3, hb4, hb5, hb6, hb7⟩ := h2.ext
  -- what the second part appends is new to the first part's early plan, hence to `u.early` and to `e1`
  have hb5' : ∀ x ∈ e2, x ∉ u.early ∧ x ∉ e1 := fun x hx => by simpa [ha1] using hb5 x hx
  refine ⟨⟨e1 ++ e2, by rw [hb1, ha1, List.append_assoc], by rw [hb2, ha2, filter_filter_app],
    List.forall_mem_append.mpr ⟨fun x hx => hr1 _ (ha3 x hx), fun x hx => hr2 _ (hb3 x hx)⟩,
    List.forall_mem_append.mpr ⟨ha4, hb4⟩,
    List.forall_mem_append.mpr ⟨ha5, fun x hx => (hb5' x hx).1⟩,
    List.nodup_append.mpr ⟨ha6, hb6, fun a ha b hb e => (hb5' b hb).2 (e ▸ ha)⟩,
    List.forall_mem_append.mpr ⟨ha7, hb7⟩⟩, ?_, fun hE => h2.earlyOK (h1.earlyOK hE)⟩
  intro t ht
  rcases List.mem_append.mp ht with h | h
  · exact (h1.reached t h).imp_right (fun h' => by rw [hb1]; exact List.mem_append_left _ h')
  · exact h2.reached t h

/-- the dependency loop, given the specification of the function it iterates -/
theorem foldE_spec {g : Graph} {ex : List Nat} {r : Nat → Nat} (fuel : Nat)
    (H : ∀ (u : UP) (i : Nat), u.plan.Nodup → (g i).isSome → r i < fuel →
      ∃ u', addWithDeps g ex fuel u i = .ok u' ∧ Spec g ex r u u' (fun k => k ≤ r i) [i]) :
    ∀ (u : UP) (ds : List Nat) (b : Nat), u.plan.Nodup →
      (∀ d ∈ ds, (g d).isSome ∧ r d < fuel ∧ r d < b) →
      ∃ u', foldE (addWithDeps g ex fuel) u ds = .ok u' ∧ Spec g ex r u u' (fun k => k < b) ds := by
  intro u ds b
  induction ds generalizing u with
  | nil => exact fun _ _ => ⟨u, rfl, Spec.refl (by simp)⟩
  | cons d ds ih =>
    intro hnd hk
    obtain ⟨hd1, hd2, hd3⟩ := hk d List.mem_cons_self
    obtain ⟨u1, h1ok, h1spec⟩ := H u d hnd hd1 hd2
    have hnd1 : u1.plan.Nodup := by
      obtain ⟨e1, -, ha2, -⟩ := h1spec.ext
      rw [ha2]; exact hnd.filter _
    obtain ⟨u2, h2ok, h2spec⟩ := ih u1 hnd1 (fun x hx => hk x (List.mem_cons_of_mem _ hx))
    refine ⟨u2, by rw [foldE, h1ok]; exact h2ok, ?_⟩
    exact h1spec.trans h2spec (fun k hk => Nat.lt_of_le_of_lt hk hd3) (fun k hk => hk)

theorem addWithDeps_spec {g : Graph} {ex : List Nat} {r : Nat → Nat} {n : Nat} (wf : WF g n r) :
    ∀ (fuel : Nat) (u : UP) (i : Nat), u.plan.Nodup → (g i).isSome → r i < fuel →
      ∃ u', addWithDeps g ex fuel u i = .ok u' ∧ Spec g ex r u u' (fun k => k ≤ r i) [i] := by
  intro fuel
  induction fuel with
  | zero => intro _ _ _ _ h; omega
  | succ fuel ih =>
    intro u i hnd hk hr
    obtain ⟨deps, hg⟩ := Option.isSome_iff_exists.mp hk
    have hdeps : depsOf g i = deps := by simp [depsOf, hg]
    unfold addWithDeps
    simp only [hg]
    by_cases hex : i ∈ ex
    · exact ⟨u, by rw [if_pos hex], Spec.refl (by simp [hex])⟩
    rw [if_neg hex]
    by_cases hea : i ∈ u.early
    · exact ⟨u, by rw [if_pos hea], Spec.refl (by simp [hea])⟩
    rw [if_neg hea]
    -- the plan with `i` removed, as a filter
    have hu1 : (if i ∈ u.plan then { u with plan := u.plan.erase i } else u) =
        { u with plan := u.plan.filter (fun x => decide (x ∉ [i])) } := by
      rw [← erase_eq_filter hnd]
      split
      · rfl
      · rw [List.erase_of_not_mem ‹_›]
    rw [hu1]
    have hdk : ∀ d ∈ deps, (g d).isSome ∧ r d < fuel ∧ r d < r i := fun d hd => by
      have h2 := wf.decr i d (hdeps ▸ hd)
      exact ⟨wf.closed i hk d (hdeps ▸ hd), by omega, h2⟩
    obtain ⟨u2, h2ok, h2spec⟩ :=
      foldE_spec fuel ih { u with plan := _ } deps (r i) (hnd.filter _) hdk
    rw [h2ok]
    refine ⟨_, rfl, ?_⟩
    obtain ⟨e, he1, he2, he3, he4, he5, he6, he7⟩ := h2spec.ext
    have hie : i ∉ e := fun h => Nat.lt_irrefl _ (he3 i h)
    have single : ∀ {P : Nat → Prop}, P i → ∀ x ∈ [i], P x := fun h x hx => List.mem_singleton.mp hx ▸ h
    refine ⟨⟨e ++ [i], ?_, ?_, ?_, ?_, ?_, ?_, ?_⟩, ?_, ?_⟩
    · simp [he1]
    · simp only [he2]
      rw [filter_filter_app]
      apply List.filter_congr
      intro x _
      simp [Bool.and_comm]
    · exact List.forall_mem_append.mpr ⟨fun x hx => Nat.le_of_lt (he3 x hx), single (Nat.le_refl _)⟩
    · exact List.forall_mem_append.mpr ⟨he4, single hex⟩
    · exact List.forall_mem_append.mpr ⟨he5, single hea⟩
    · exact List.nodup_append.mpr ⟨he6, by simp, fun a ha b hb e' =>
        hie (List.mem_singleton.mp hb ▸ e' ▸ ha)⟩
    · exact List.forall_mem_append.mpr ⟨he7, single hk⟩
    · exact single (Or.inr (by simp))
    · intro hE
      apply depsFirst_append_singleton (h2spec.earlyOK hE)
      intro d hd
      exact h2spec.reached d (hdeps ▸ hd)

theorem addList_spec {g : Graph} {ex : List Nat} {r : Nat → Nat} {n : Nat} (wf : WF g n r)
    (fuel : Nat) (u : UP) (ds : List Nat) (b : Nat) (hnd : u.plan.Nodup)
    (hk : ∀ d ∈ ds, (g d).isSome ∧ r d < fuel ∧ r d < b) :
    ∃ u', addList g ex fuel u ds = .ok u' ∧ Spec g ex r u u' (fun k => k < b) ds :=
  foldE_spec fuel (addWithDeps_spec wf fuel) u ds b hnd hk

end Dagrt.Controller
