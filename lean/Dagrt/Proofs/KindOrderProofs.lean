import Dagrt.Proofs.Unify
import Dagrt.Proofs.KindLoopProofs
/-!
C14: the table kind inference returns is the LEAST post-fix-point of the statements' rules, hence
does not depend on the order in which the statements are presented.

* `infer_mono` (mutual, six functions): in the mode the work-list loop uses (`check = False`), the
  rules are monotone in the table w.r.t. the information order `le` induced by `unify` — a larger
  table gives a larger kind if it gives one at all, and never turns an inferable expression into
  "unable to infer".
* `inferAll_least`: being below a given strict post-fix-point (one without ignored unification
  failures) of the same statements is kept by every step of the loop (`processStmt_below`).
-/
namespace Dagrt.Kinds
open Dagrt

theorem unify_mono {a a' b b' c c' : Option Kind} (ha : le a a') (hb : le b b')
    (h : unify a b = .ok c) (h' : unify a' b' = .ok c') : le c c' :=
  unify_least a b c c' h (le_trans _ _ _ ha (unify_upper_left a' b' c' h'))
    (le_trans _ _ _ hb (unify_upper_right a' b' c' h'))

theorem unify_not_unable (a b : Option Kind) : unify a b ≠ .error .unable := by
  cases a with
  | none => simp
  | some ka =>
    cases b with
    | none => simp
    | some kb => cases ka <;> cases kb <;> simp only [unify] <;> (try split) <;> simp

theorem unifyK_not_unable (ka kb : Kind) : unifyK ka kb ≠ .error .unable := by
  unfold unifyK
  have := unify_not_unable (some ka) (some kb)
  cases h : unify (some ka) (some kb) with
  | error e => simp only; intro he; cases he; exact this h
  | ok r => cases r <;> simp

/-- `t ⊑ T`: every entry of `t` is an entry of `T` with a kind at least as high -/
def TLe (t T : Table) : Prop :=
  ∀ key k, lookupE t.entries key = some k → ∃ k', lookupE T.entries key = some k' ∧ le (some k) (some k')

theorem TLe.refl (t : Table) : TLe t t := fun _ k h => ⟨k, h, le_refl _⟩

theorem TLe.trans {a b c : Table} (h1 : TLe a b) (h2 : TLe b c) : TLe a c := by
  intro key k hk
  obtain ⟨k1, hk1, l1⟩ := h1 key k hk
  obtain ⟨k2, hk2, l2⟩ := h2 key k1 hk1
  exact ⟨k2, hk2, le_trans _ _ _ l1 l2⟩

theorem lookupVar_mono {t T : Table} {ph n : Name} {k : Kind} (hph : ph ≠ "") (hw : WellScoped t) (hW : WellScoped T)
    (h : TLe t T) (hk : lookupVar t ph n = some k) : ∃ k', lookupVar T ph n = some k' ∧ le (some k) (some k') := by
  rw [lookupVar_eq_get t ph n hph hw] at hk
  rw [lookupVar_eq_get T ph n hph hW]
  exact h _ k hk

inductive ArgsLe : List (Option Kind) → List (Option Kind) → Prop
  | nil : ArgsLe [] []
  | cons {a b : Option Kind} {as bs : List (Option Kind)} : le a b → ArgsLe as bs → ArgsLe (a :: as) (b :: bs)

inductive KwLe : List (Name × Option Kind) → List (Name × Option Kind) → Prop
  | nil : KwLe [] []
  | cons {n : Name} {a b : Option Kind} {as bs : List (Name × Option Kind)} :
      le a b → KwLe as bs → KwLe ((n, a) :: as) ((n, b) :: bs)

inductive KsLe : List Kind → List Kind → Prop
  | nil : KsLe [] []
  | cons {a b : Kind} {as bs : List Kind} : le (some a) (some b) → KsLe as bs → KsLe (a :: as) (b :: bs)

/-- what the work-list loop needs of the registered functions (in its mode, `check = False`): more
    information about the arguments gives more information about the results, and does not make the
    result kinds unavailable -/
def RegMono (reg : Registry) : Prop :=
  ∀ f fn, reg f = some fn → ∀ ak ak' kk kk' ks, ArgsLe ak ak' → KwLe kk kk' → fn false ak kk = .ok ks →
    ∃ ks', fn false ak' kk' = .ok ks' ∧ KsLe ks ks'

/-- `y` is above `x`: if `x` succeeds, `y` does not answer "unable", and if it succeeds too its
    answer is above -/
def Up {α : Type} (R : α → α → Prop) (x y : Except KErr α) : Prop :=
  ∀ a, x = .ok a → (∀ b, y = .ok b → R a b) ∧ y ≠ .error .unable

/-! ### the rules are monotone

`Up` goes through sequencing (`up_bind`), so each rule is above itself as soon as its parts are.
Lemmas named `…_up` conclude `Up`; `infer_mono` and its five companions do too. -/

/-- what `Up R x y` asks at one answer of `x`, for the two shapes of `y` that meet it -/
theorem up_of_error {α : Type} {P : α → Prop} {e : KErr} (he : e ≠ .unable) :
    (∀ b, (Except.error e : Except KErr α) = .ok b → P b) ∧ (Except.error e : Except KErr α) ≠ .error .unable :=
  ⟨fun b hb => (by cases hb), fun h => (by cases h; exact he rfl)⟩

theorem up_of_ok {α : Type} {P : α → Prop} {x : α} (h : P x) :
    (∀ b, (Except.ok x : Except KErr α) = .ok b → P b) ∧ (Except.ok x : Except KErr α) ≠ .error .unable :=
  ⟨fun b hb => (by cases hb; exact h), fun h => (by cases h)⟩

theorem up_same {x : Except KErr Kind} : Up (fun k k' => le (some k) (some k')) x x :=
  fun a h => ⟨fun b hb => by cases h.symm.trans hb; exact le_refl _, fun hu => by cases h.symm.trans hu⟩

theorem up_pure {α : Type} {R : α → α → Prop} {a b : α} (h : R a b) : Up R (.ok a) (.ok b) :=
  fun _ e => by cases e; exact up_of_ok h

theorem up_bind {α β : Type} {R : α → α → Prop} {S : β → β → Prop} {x x' : Except KErr α}
    {f f' : α → Except KErr β} (hx : Up R x x') (hf : ∀ a a', R a a' → Up S (f a) (f' a')) :
    Up S (x >>= f) (x' >>= f') := by
  intro b h
  cases x with
  | error e => cases h
  | ok a =>
    obtain ⟨h1, h2⟩ := hx a rfl
    cases x' with
    | error e => exact up_of_error (fun he => h2 (he ▸ rfl))
    | ok a' => exact hf a a' (h1 a' rfl) b h

theorem unify_up {a a' b b' : Option Kind} (ha : le a a') (hb : le b b') : Up le (unify a b) (unify a' b') :=
  fun _ h => ⟨fun _ h' => unify_mono ha hb h h', unify_not_unable _ _⟩

theorem unifyK_up {ka ka' kb kb' : Kind} (ha : le (some ka) (some ka')) (hb : le (some kb) (some kb')) :
    Up (fun k k' => le (some k) (some k')) (unifyK ka kb) (unifyK ka' kb') :=
  fun _ h => ⟨fun _ h' => unify_mono ha hb ((unifyK_ok _ _ _).mp h) ((unifyK_ok _ _ _).mp h'), unifyK_not_unable _ _⟩

theorem isReal_up {ka ka' : Kind} (l : le (some ka) (some ka')) :
    Up (fun r r' => le (some (.scalar r)) (some (.scalar r'))) (isRealValued ka) (isRealValued ka') := by
  intro r h
  cases ka <;> cases ka' <;> simp [isRealValued, le, unify] at h l ⊢ <;> grind

theorem argKind_up {x y : Except KErr Kind} (h : Up (fun k k' => le (some k) (some k')) x y) :
    Up le (argKind x) (argKind y) := by
  intro a ha
  refine ⟨fun b hb => ?_, fun hy => ?_⟩
  · rcases argKind_ok ha with ⟨rfl, rfl⟩ | ⟨k, rfl, rfl⟩
    · exact le_none b
    · rcases argKind_ok hb with ⟨hy, _⟩ | ⟨k', rfl, rfl⟩
      · exact absurd hy (h k rfl).2
      · exact (h k rfl).1 k' rfl
  · cases y with
    | ok k => cases hy
    | error e => cases e <;> cases hy

/-- in the loop's mode a sum unifies in the kinds of the children that have one -/
theorem inferSum_cons (reg : Registry) (t : Table) (ph : Name) (c : Expr) (cs : List Expr) (acc : Option Kind) :
    inferSum false reg t ph (c :: cs) acc =
      argKind (infer false reg t ph c) >>= fun a => unify acc a >>= inferSum false reg t ph cs := by
  simp only [inferSum]
  cases infer false reg t ph c with
  | error e => cases e <;> simp [argKind, bind, Except.bind]
  | ok k => cases h : unify acc (some k) <;> simp [argKind, bind, Except.bind, h]

theorem inferProd_cons (reg : Registry) (t : Table) (ph : Name) (c : Expr) (cs : List Expr) (acc : Option Kind) :
    inferProd false reg t ph (c :: cs) acc =
      infer false reg t ph c >>= fun k => unify acc (some k) >>= inferProd false reg t ph cs := by
  simp only [inferProd]
  cases infer false reg t ph c with
  | error e => rfl
  | ok k => cases h : unify acc (some k) <;> simp [bind, Except.bind, h]

theorem inferAllOk_cons (reg : Registry) (t : Table) (ph : Name) (c : Expr) (cs : List Expr) :
    inferAllOk false reg t ph (c :: cs) = infer false reg t ph c >>= fun _ => inferAllOk false reg t ph cs := by
  simp only [inferAllOk, Bool.false_and, Bool.false_eq_true, if_false]
  cases infer false reg t ph c <;> rfl

/-- a sum / product node has the folded kind of its children; none is the error `e0` -/
theorem optKind_up {e0 : KErr} {x y : Except KErr (Option Kind)} : Up le x y →
    Up (fun k k' => le (some k) (some k'))
      (match x with | .error e => .error e | .ok none => .error e0 | .ok (some k) => .ok k)
      (match y with | .error e => .error e | .ok none => .error e0 | .ok (some k) => .ok k) := by
  intro h k hk
  match x, hk with
  | .ok (some _), rfl =>
    obtain ⟨h1, h2⟩ := h _ rfl
    match y, h1, h2 with
    | .error e, _, h2 => exact up_of_error (fun he => h2 (he ▸ rfl))
    | .ok none, h1, _ => exact absurd (h1 _ rfl) (le_some_none k)
    | .ok (some k'), h1, _ => exact up_of_ok (h1 _ rfl)

theorem callKind_up {x y : Except KErr (List Kind)} : (∀ ks, x = .ok ks → ∃ ks', y = .ok ks' ∧ KsLe ks ks') →
    Up (fun k k' => le (some k) (some k'))
      (match x with | .error _ => .error .unable | .ok [k] => .ok k | .ok _ => .error .runtimeError)
      (match y with | .error _ => .error .unable | .ok [k] => .ok k | .ok _ => .error .runtimeError) := by
  intro h k hk
  match x, hk, h with
  | .ok [_], rfl, h =>
    obtain ⟨ks', rfl, l⟩ := h _ rfl
    cases l with
    | cons l0 lrest => cases lrest; exact up_of_ok l0

section
variable (reg : Registry) (t T : Table) (ph : Name) (hph : ph ≠ "") (hw : WellScoped t) (hW : WellScoped T)
  (hle : TLe t T) (hreg : RegMono reg)
include hph hw hW hle hreg

mutual
theorem infer_mono : ∀ e : Expr,
    Up (fun k k' => le (some k) (some k')) (infer false reg t ph e) (infer false reg T ph e)
  | .const c => by cases c <;> simp only [infer] <;> exact up_same
  | .var n => by
    intro k h
    simp only [infer] at h ⊢
    cases hl : lookupVar t ph n with
    | none => simp [hl] at h
    | some k0 =>
      simp only [hl] at h
      cases h
      obtain ⟨k', hk', l⟩ := lookupVar_mono hph hw hW hle hl
      simp only [hk']
      exact up_of_ok l
  | .sum cs => by simp only [infer]; exact optKind_up (inferSum_mono cs none none (le_refl _))
  | .prod cs => by simp only [infer]; exact optKind_up (inferProd_mono cs none none (le_refl _))
  | .quot a b | .pow a b => by
    simp only [infer]
    exact up_bind (infer_mono a) fun _ _ la => up_bind (infer_mono b) fun _ _ lb => unifyK_up la lb
  | .call f args kw => by
    simp only [infer]
    cases hf : reg f with
    | none => exact up_same
    | some fn =>
      exact up_bind (inferArgs_mono args) fun ak ak' la => up_bind (inferKw_mono kw) fun kk kk' lk =>
        callKind_up fun ks => hreg f fn hf ak ak' kk kk' ks la lk
  | .sub a i => by
    simp only [infer, Bool.false_eq_true, if_false]
    exact up_bind (infer_mono a) fun _ _ la => up_bind (isReal_up la) fun _ _ lr => up_pure lr
  | .lnot a => by
    simp only [infer, Bool.false_and, Bool.false_eq_true, if_false]
    exact up_bind (infer_mono a) fun _ _ _ => up_pure (le_refl _)
  | .land cs | .lor cs => by
    simp only [infer]
    exact up_bind (inferAllOk_mono cs) fun _ _ _ => up_pure (le_refl _)
  | .cmp _ _ _ | .ite _ _ _ | .attr _ _ | .min _ | .max _ => by simp only [infer]; exact up_same
theorem inferSum_mono : ∀ (cs : List Expr) (acc acc' : Option Kind), le acc acc' →
    Up le (inferSum false reg t ph cs acc) (inferSum false reg T ph cs acc')
  | [], acc, acc', hacc => by simp only [inferSum]; exact up_pure hacc
  | c :: cs, acc, acc', hacc => by
    simp only [inferSum_cons]
    exact up_bind (argKind_up (infer_mono c)) fun _ _ la => up_bind (unify_up hacc la) fun x x' lx =>
      inferSum_mono cs x x' lx
theorem inferProd_mono : ∀ (cs : List Expr) (acc acc' : Option Kind), le acc acc' →
    Up le (inferProd false reg t ph cs acc) (inferProd false reg T ph cs acc')
  | [], acc, acc', hacc => by simp only [inferProd]; exact up_pure hacc
  | c :: cs, acc, acc', hacc => by
    simp only [inferProd_cons]
    exact up_bind (infer_mono c) fun _ _ lk => up_bind (unify_up hacc lk) fun x x' lx => inferProd_mono cs x x' lx
theorem inferAllOk_mono : ∀ cs : List Expr,
    Up (fun _ _ => True) (inferAllOk false reg t ph cs) (inferAllOk false reg T ph cs)
  | [] => by simp only [inferAllOk]; exact up_pure trivial
  | c :: cs => by
    simp only [inferAllOk_cons]
    exact up_bind (infer_mono c) fun _ _ _ => inferAllOk_mono cs
theorem inferArgs_mono : ∀ cs : List Expr,
    Up ArgsLe (inferArgs false reg t ph cs) (inferArgs false reg T ph cs)
  | [] => by simp only [inferArgs]; exact up_pure .nil
  | c :: cs => by
    simp only [inferArgs_cons]
    exact up_bind (argKind_up (infer_mono c)) fun _ _ la => up_bind (inferArgs_mono cs) fun _ _ lr =>
      up_pure (.cons la lr)
theorem inferKw_mono : ∀ cs : List (Name × Expr),
    Up KwLe (inferKw false reg t ph cs) (inferKw false reg T ph cs)
  | [] => by simp only [inferKw]; exact up_pure .nil
  | (n, c) :: cs => by
    simp only [inferKw_cons]
    exact up_bind (argKind_up (infer_mono c)) fun _ _ la => up_bind (inferKw_mono cs) fun _ _ lr =>
      up_pure (.cons la lr)
end

end

theorem set_below {t T : Table} {ph n : Name} {k : Kind} (h : TLe t T) (ha : Above T ph n k) :
    TLe (t.set ph n k) T := by
  obtain ⟨old, hold, lk⟩ := ha
  have hupd : ∀ v, le (some v) (some old) →
      TLe { entries := updateE t.entries (scope ph n, n) v, changed := true } T := by
    intro v lv key kk hl
    simp only [lookupE_updateE] at hl
    split at hl
    · rename_i heq
      cases hl
      exact ⟨old, heq ▸ hold, lv⟩
    · exact h key kk hl
  rcases set_cases t ph n k with ⟨e, _⟩ | ⟨v, e, ⟨_, rfl⟩ | ⟨o, ho, hu, _⟩⟩ <;> rw [e]
  · exact h
  · exact hupd v lk
  · -- the old kind is below `T`'s too, so is its unification with `k`
    obtain ⟨o', ho', lo⟩ := h _ o ho
    cases ho'.symm.trans hold
    exact hupd v (unify_least _ _ _ _ ((unifyK_ok _ _ _).mp hu) lk lo)

theorem set_above (t : Table) (ph n : Name) (k : Kind) : TLe t (t.set ph n k) := by
  have hupd : ∀ v, (∀ o, lookupE t.entries (scope ph n, n) = some o → le (some o) (some v)) →
      TLe t { entries := updateE t.entries (scope ph n, n) v, changed := true } := by
    intro v hv key kk hl
    simp only [lookupE_updateE]
    split
    · rename_i heq
      subst heq
      exact ⟨v, rfl, hv kk hl⟩
    · exact ⟨kk, hl, le_refl _⟩
  rcases set_cases t ph n k with ⟨e, _⟩ | ⟨v, e, ⟨ho, _⟩ | ⟨o, ho, hu, _⟩⟩ <;> rw [e]
  · exact TLe.refl t
  · exact hupd v (fun o h => by rw [ho] at h; cases h)
  · exact hupd v (fun o' h => by
      cases ho.symm.trans h
      exact unify_upper_right _ _ _ ((unifyK_ok _ _ _).mp hu))

theorem setLoops_below {T : Table} {ph : Name} : ∀ (is : List Name) (t : Table), TLe t T →
    (∀ i ∈ is, Above T ph i .integer) → TLe (setLoops t ph is) T
  | [], _, h, _ => h
  | i :: is, _, h, ha =>
    setLoops_below is _ (set_below h (ha i List.mem_cons_self)) (fun j hj => ha j (List.mem_cons_of_mem _ hj))

theorem setZip_below {T : Table} {ph : Name} : ∀ (ns : List Name) (ks ks' : List Kind) (t : Table), TLe t T →
    KsLe ks ks' → (∀ p ∈ zipNK ns ks', Above T ph p.1 p.2) → TLe (setZip t ph ns ks) T
  | [], ks, _, t, h, _, _ => by simpa [setZip] using h
  | n :: ns, [], _, t, h, _, _ => by simpa [setZip] using h
  | n :: ns, k :: ks, ks', t, h, hks, ha => by
    cases hks with
    | cons l0 lrest =>
      rename_i k' ks''
      simp only [setZip]
      apply setZip_below ns ks ks'' _ _ lrest (fun p hp => ha p (by simp [zipNK, hp]))
      apply set_below h
      obtain ⟨old, hold, l⟩ := ha (n, k') (by simp [zipNK])
      exact ⟨old, hold, le_trans _ _ _ l0 l⟩

/-- strict post-fix-point of the rule of one statement (no unification failure swallowed) -/
def StmtFixS (reg : Registry) (T : Table) (ph : Name) : KStmt → Prop
  | .assign lhs hasSub _ flat loops =>
    (∀ i ∈ loops, Above T ph i .integer) ∧
    (hasSub = false → ∃ k, infer false reg T ph flat = .ok k ∧ Above T ph lhs k)
  | .callAssign lhs f args kw =>
    ∃ ks, inferCall false reg T ph f args kw = .ok ks ∧ ∀ p ∈ zipNK lhs ks, Above T ph p.1 p.2
  | .other => True

theorem inferCall_mono (reg : Registry) (t T : Table) (ph : Name) (hph : ph ≠ "") (hw : WellScoped t)
    (hW : WellScoped T) (hle : TLe t T) (hreg : RegMono reg) (f : Name) (args : List Expr) (kw : List (Name × Expr))
    (ks ks' : List Kind) (h : inferCall false reg t ph f args kw = .ok ks)
    (h' : inferCall false reg T ph f args kw = .ok ks') : KsLe ks ks' := by
  obtain ⟨fn, ak, kk, hf, ha, hk, hfn⟩ := inferCall_ok h
  obtain ⟨fn', ak', kk', hf', hA, hK, hfn'⟩ := inferCall_ok h'
  cases hf.symm.trans hf'
  obtain ⟨r', hr', lr⟩ := hreg f fn hf ak ak' kk kk' ks
    ((inferArgs_mono reg t T ph hph hw hW hle hreg args ak ha).1 ak' hA)
    ((inferKw_mono reg t T ph hph hw hW hle hreg kw kk hk).1 kk' hK) hfn
  cases hfn'.symm.trans hr'
  exact lr

theorem processStmt_below (reg : Registry) (hreg : RegMono reg) (t T : Table) (ph : Name) (hph : ph ≠ "")
    (hw : WellScoped t) (hW : WellScoped T) (hle : TLe t T) (s : KStmt) (hfix : StmtFixS reg T ph s) (t' : Table)
    (h : (processStmt reg t ph s).table? = some t') : TLe t' T := by
  cases s with
  | assign lhs hasSub rhs flat loops =>
    obtain ⟨hl, ha⟩ := hfix
    have h1 : TLe (setLoops t ph loops) T := setLoops_below loops t hle hl
    rcases processStmt_table h with ⟨rfl, _⟩ | ⟨k, rfl, hi, rfl⟩
    · exact h1
    · -- the kind inferred on the smaller table is below the one `T` infers, which `T`'s entry absorbs
      have hw1 : WellScoped (setLoops t ph loops) := setLoops_inv (fun t n k => set_wellScoped t ph n k hph) loops t hw
      obtain ⟨k', hk', old, hold, l⟩ := ha rfl
      exact set_below h1 ⟨old, hold, le_trans _ _ _ ((infer_mono reg _ T ph hph hw1 hW h1 hreg flat k hi).1 k' hk') l⟩
  | callAssign lhs f args kw =>
    obtain ⟨ks', hks', hab⟩ := hfix
    rcases processStmt_table h with ⟨rfl, _⟩ | ⟨ks, hi, rfl⟩
    · exact hle
    · exact setZip_below lhs ks ks' t hle (inferCall_mono reg t T ph hph hw hW hle hreg f args kw ks ks' hi hks') hab
  | other => cases processStmt_table h; exact hle

theorem processStmt_above (reg : Registry) (t : Table) (ph : Name) (s : KStmt) (t' : Table)
    (h : (processStmt reg t ph s).table? = some t') : TLe t t' :=
  processStmt_inv (P := TLe t) (fun t' n k h => h.trans (set_above t' ph n k)) reg t s t' (TLe.refl t) h

/-- what the loop needs of its work: phases are named, and `T` is a strict post-fix-point -/
def WorkOK (reg : Registry) (T : Table) (l : List (Name × KStmt)) : Prop :=
  ∀ p ∈ l, p.1 ≠ "" ∧ StmtFixS reg T p.1 p.2

theorem inferAll_least (reg : Registry) (hreg : RegMono reg) (prog : List (Name × KStmt)) (t : Table)
    (h : inferAll reg prog = .ok t) (T : Table) (hW : WellScoped T) (hwork : WorkOK reg T prog)
    (hinit : TLe Table.init T) : TLe t T :=
  (inferAll_inv reg prog (fun t => WellScoped t ∧ TLe t T) (fun _ _ h => h) ⟨wellScoped_init, hinit⟩
    (fun p hp t t' ⟨hw, hle⟩ ht =>
      ⟨processStmt_wellScoped reg t p.1 (hwork p hp).1 p.2 t' ht hw,
       processStmt_below reg hreg t T p.1 (hwork p hp).1 hw hW hle p.2 (hwork p hp).2 t' ht⟩) t h).2

theorem inferAll_above_init (reg : Registry) (prog : List (Name × KStmt)) (t : Table)
    (h : inferAll reg prog = .ok t) : TLe Table.init t :=
  inferAll_inv reg prog (TLe Table.init) (fun _ _ h => h) (TLe.refl _)
    (fun p _ t t' hle ht => hle.trans (processStmt_above reg t p.1 p.2 t' ht)) t h

theorem tle_antisymm {t t' : Table} (h1 : TLe t t') (h2 : TLe t' t) :
    ∀ key, lookupE t.entries key = lookupE t'.entries key := by
  intro key
  cases hk : lookupE t.entries key with
  | none =>
    cases hk' : lookupE t'.entries key with
    | none => rfl
    | some k' =>
      obtain ⟨k, hk2, _⟩ := h2 key k' hk'
      rw [hk] at hk2; cases hk2
  | some k =>
    obtain ⟨k', hk', l1⟩ := h1 key k hk
    obtain ⟨k'', hk'', l2⟩ := h2 key k' hk'
    rw [hk] at hk''
    cases hk''
    have := le_antisymm _ _ l1 l2
    cases this
    exact hk'.symm

end Dagrt.Kinds
