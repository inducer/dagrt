import Dagrt.Model.Verify
/-!
The stack machine of `verify_no_circular_dependencies` (`Verify.step` / `Verify.run`), for an
arbitrary neighbour function, known-test, root list and node list: the invariant of its stack
(`Frames`, `Inv`), what its terminal steps mean, its termination measure, and from these its total
correctness (`run_spec`, `run_init`).  The cycle check of C10 and the topological sort of C05 are
instances.
-/
namespace Dagrt.Verify

variable (nbrs : Nat → List Nat) (knownF : Nat → Bool)

theorem scan_spec (vis l : List Nat) :
    match scan knownF vis l with
    | .ok => ∀ n ∈ l, n ∉ vis ∧ knownF n = true
    | .cycle => ∃ n ∈ l, n ∈ vis
    | .keyError => ∃ n ∈ l, knownF n = false := by
  induction l with
  | nil => simp [scan]
  | cons x xs ih =>
    by_cases hx : x ∈ vis
    · simp only [scan, hx, if_true]
      exact ⟨x, List.mem_cons_self, hx⟩
    · by_cases hk : knownF x = true
      · simp only [scan, hx, hk, if_false, if_true]
        cases h : scan knownF vis xs <;> simp only [h] at ih ⊢
        · simpa [hx, hk] using ih
        · exact ih.imp fun n hn => ⟨List.mem_cons_of_mem _ hn.1, hn.2⟩
        · exact ih.imp fun n hn => ⟨List.mem_cons_of_mem _ hn.1, hn.2⟩
      · simp only [scan, hx, hk, if_false]
        exact ⟨x, List.mem_cons_self, by simpa using hk⟩

/-- The six ways one iteration of the `while stack:` loop can go, the outcome of the neighbour scan
    spelled out.  Facts about `step` are proved by `cases` on this relation; `step` and `scan` are
    unfolded only in `step_spec` and `scan_spec`. -/
inductive StepTo : St → Res → Prop where
  | done {vg vd o} : StepTo ⟨[], vg, vd, o⟩ (.done o)
  | finish {top rest vg vd o} : top ∈ vd → top ∈ vg →
      StepTo ⟨top :: rest, vg, vd, o⟩ (.running ⟨rest, vg.erase top, vd, o ++ [top]⟩)
  | pop {top rest vg vd o} : top ∈ vd → top ∉ vg →
      StepTo ⟨top :: rest, vg, vd, o⟩ (.running ⟨rest, vg, vd, o⟩)
  | push {top rest vg vd o} : top ∉ vd → (∀ n ∈ nbrs top, n ∉ top :: vg ∧ knownF n = true) →
      StepTo ⟨top :: rest, vg, vd, o⟩
        (.running ⟨(nbrs top).reverse ++ top :: rest, top :: vg, top :: vd, o⟩)
  | cycle {top rest vg vd o} : top ∉ vd → (∃ n ∈ nbrs top, n ∈ top :: vg) →
      StepTo ⟨top :: rest, vg, vd, o⟩ .cycle
  | keyError {top rest vg vd o} : top ∉ vd → (∃ n ∈ nbrs top, knownF n = false) →
      StepTo ⟨top :: rest, vg, vd, o⟩ .keyError

theorem step_spec {s : St} {r : Res} (h : step nbrs knownF s = r) : StepTo nbrs knownF s r := by
  subst h
  obtain ⟨stack, vg, vd, o⟩ := s
  cases stack with
  | nil => exact .done
  | cons top rest =>
    simp only [step]
    split
    · split
      · exact .finish ‹_› ‹_›
      · exact .pop ‹_› ‹_›
    · have hscan := scan_spec knownF (top :: vg) (nbrs top)
      split <;> rename_i heq <;> rw [heq] at hscan
      · exact .cycle ‹_› hscan
      · exact .keyError ‹_› hscan
      · exact .push ‹_› hscan

/-- stack = seg_k ++ v_k :: … :: seg_1 ++ v_1 :: seg_0, visiting = [v_k … v_1]

    `avail n`: `n` is finished, or will be before the frame in question is.  At the top level it
    is "in the finish order"; for the frame below, the segment and the visiting node above it are
    available too, because they leave the stack first (fifth hypothesis of `cons`).  The third
    hypothesis is the reason the finish order is topological: a neighbour of a visiting node is
    available or still pending in its segment, so when the segment is empty all are finished.
    The first two say a segment holds neighbours of its node, none of them visiting (the scan
    would have reported a cycle), the fourth that the visiting nodes form a dependency chain (a
    reported cycle is real). -/
inductive Frames : (Nat → Prop) → List Nat → List Nat → Prop where
  | nil (avail stack) : Frames avail stack []
  | cons (avail : Nat → Prop) (seg : List Nat) (v : Nat) (below vs : List Nat) :
      (∀ x ∈ seg, x ∈ nbrs v) →
      (∀ x ∈ seg, x ∉ v :: vs) →
      (∀ n ∈ nbrs v, avail n ∨ n ∈ seg) →
      (∀ v', vs.head? = some v' → v ∈ nbrs v') →
      Frames (fun n => avail n ∨ n ∈ seg ∨ n = v) below vs →
      Frames avail (seg ++ v :: below) (v :: vs)

namespace Frames
variable {nbrs} {a : Nat → Prop} {top : Nat} {rest vis : List Nat}

theorem mono {a' : Nat → Prop} {s : List Nat} (h : Frames nbrs a s vis)
    (himp : ∀ n, a n → a' n) : Frames nbrs a' s vis := by
  induction h generalizing a' with
  | nil => exact .nil _ _
  | cons avail seg v below vs h1 h2 h3 h4 _ ih =>
    exact .cons a' seg v below vs h1 h2 (fun n hn => (h3 n hn).imp_left (himp n)) h4
      (ih fun n hn => hn.imp_left (himp n))

theorem nil_stack {st : List Nat} (h : Frames nbrs a st vis) (hst : st = []) : vis = [] := by
  cases h with
  | nil => rfl
  | cons => simp at hst

/-- The top of the stack is visiting: it is the innermost visiting node and nothing is left above
    it, so all its neighbours are available. -/
theorem finish (h : Frames nbrs a (top :: rest) vis) (ht : top ∈ vis) :
    ∃ vs, vis = top :: vs ∧ (∀ n ∈ nbrs top, a n) ∧
      Frames nbrs (fun n => a n ∨ n = top) rest vs := by
  generalize hst : top :: rest = st at h
  cases h with
  | nil => cases ht
  | cons _ seg v below vs h1 h2 h3 h4 h5 =>
    cases seg with
    | nil =>
      cases hst
      exact ⟨vs, rfl, fun n hn => (h3 n hn).resolve_right (by simp),
        h5.mono fun n hn => by simpa using hn⟩
    | cons x seg' =>
      cases hst
      exact absurd ht (h2 top (by simp))

/-- The top of the stack is not visiting: it is a pending neighbour of the innermost visiting
    node (if any), and may be dropped once it is available. -/
theorem pop (h : Frames nbrs a (top :: rest) vis) (ht : top ∉ vis) :
    (∀ v ∈ vis.head?, top ∈ nbrs v) ∧
    ∀ {a' : Nat → Prop}, (∀ n, a n → a' n) → a' top → Frames nbrs a' rest vis := by
  generalize hst : top :: rest = st at h
  cases h with
  | nil => exact ⟨by simp, fun _ _ => .nil _ _⟩
  | cons _ seg v below vs h1 h2 h3 h4 h5 =>
    cases seg with
    | nil =>
      cases hst
      simp at ht
    | cons x seg' =>
      cases hst
      refine ⟨by simpa using h1 top (by simp), fun {a'} himp htop => ?_⟩
      have hmem : ∀ n, n ∈ top :: seg' → a' n ∨ n ∈ seg' := by
        intro n hn
        rcases List.mem_cons.mp hn with rfl | hn
        · exact .inl htop
        · exact .inr hn
      refine .cons a' seg' v below vs (fun y hy => h1 y (by simp [hy]))
        (fun y hy => h2 y (by simp [hy])) (fun n hn => ?_) h4 (h5.mono fun n hn => ?_)
      · exact (h3 n hn).elim (fun h => .inl (himp n h)) (hmem n)
      · rcases hn with h | h | h
        · exact .inl (himp n h)
        · exact (hmem n h).imp_right .inl
        · exact .inr (.inr h)

theorem push (h : Frames nbrs a (top :: rest) vis) (ht : top ∉ vis)
    (hn : ∀ x ∈ nbrs top, x ∉ top :: vis) :
    Frames nbrs a ((nbrs top).reverse ++ top :: rest) (top :: vis) :=
  .cons a _ top rest vis (by simp) (by simpa using hn) (fun n hn => .inr (by simpa using hn))
    (h.pop ht).1 ((h.pop ht).2 (fun n => .inl) (.inr (.inr rfl)))

end Frames

def Topo (order : List Nat) : Prop :=
  ∀ pre u post, order = pre ++ u :: post → ∀ n ∈ nbrs u, n ∈ pre

/-- `order` logs the finished nodes, `visited` is visiting plus finished, the stack has the frame
    structure with "finished" as `avail`, and every node is finished after its neighbours. -/
structure Inv (s : St) : Prop where
  nodupV : s.visiting.Nodup
  nodupO : s.order.Nodup
  disj : ∀ x ∈ s.visiting, x ∉ s.order
  visited_iff : ∀ x, x ∈ s.visited ↔ x ∈ s.visiting ∨ x ∈ s.order
  frames : Frames nbrs (fun n => n ∈ s.order) s.stack s.visiting
  topo : Topo nbrs s.order

theorem init_inv (stack : List Nat) : Inv nbrs ⟨stack, [], [], []⟩ :=
  ⟨by simp, by simp, by simp, by simp, .nil _ _, fun pre u post h => by simp at h⟩

theorem topo_snoc {order : List Nat} {v : Nat} (ht : Topo nbrs order)
    (hv : ∀ n ∈ nbrs v, n ∈ order) : Topo nbrs (order ++ [v]) := by
  intro pre u post heq n hn
  rcases List.eq_nil_or_concat post with rfl | ⟨post', w, rfl⟩
  · obtain ⟨rfl, h⟩ := List.append_inj' heq rfl
    cases h
    exact hv n hn
  · have heq : order ++ [v] = (pre ++ u :: post') ++ [w] := by simpa using heq
    exact ht pre u post' (List.append_inj' heq rfl).1 n hn

theorem inv_step {s s' : St} (h : Inv nbrs s) (hs : step nbrs knownF s = .running s') : Inv nbrs s' := by
  obtain ⟨hndV, hndO, hdisj, hvi, hfr, htopo⟩ := h
  cases step_spec nbrs knownF hs with
  | @finish top rest vg vd o hvd hvg =>
    obtain ⟨vs, rfl, hnb, hfr'⟩ := hfr.finish hvg
    have ⟨htop, hndV'⟩ := List.nodup_cons.mp hndV
    have hto : top ∉ o := hdisj top (by simp)
    refine ⟨by simpa using hndV', ?_, ?_, ?_, ?_, topo_snoc nbrs htopo hnb⟩
    · refine List.nodup_append.mpr ⟨hndO, by simp, fun x hx y hy e => hto ?_⟩
      rwa [← List.mem_singleton.mp hy, ← e]
    · intro x hx
      have hx : x ∈ vs := by simpa using hx
      simpa using ⟨hdisj x (by simp [hx]), fun e => htop (e ▸ hx)⟩
    · intro x
      simp [hvi x, or_assoc, or_comm, or_left_comm]
    · simpa using hfr'.mono fun n hn => by simpa using hn
  | @pop top rest vg vd o hvd hvg =>
    exact ⟨hndV, hndO, hdisj, hvi,
      (hfr.pop hvg).2 (fun _ => id) (((hvi top).mp hvd).resolve_left hvg), htopo⟩
  | @push top rest vg vd o hvd hscan =>
    have hvg : top ∉ vg := fun h' => hvd ((hvi top).mpr (.inl h'))
    have hto : top ∉ o := fun h' => hvd ((hvi top).mpr (.inr h'))
    refine ⟨List.nodup_cons.mpr ⟨hvg, hndV⟩, hndO, ?_, ?_,
      hfr.push hvg fun x hx => (hscan x hx).1, htopo⟩
    · intro x hx
      rcases List.mem_cons.mp hx with rfl | hx
      · exact hto
      · exact hdisj x hx
    · intro x
      simp [hvi x, or_assoc]

/-- acyclicity of the dependency relation, as a rank function -/
def Acyclic : Prop := ∃ rank : Nat → Nat, ∀ u, ∀ d ∈ nbrs u, rank d < rank u

theorem frames_rank_sorted {a : Nat → Prop} {st vis : List Nat} (h : Frames nbrs a st vis)
    (rank : Nat → Nat) (hr : ∀ u, ∀ d ∈ nbrs u, rank d < rank u) :
    vis.Pairwise (fun x y => rank x < rank y) := by
  induction h with
  | nil => exact .nil
  | cons avail seg v below vs h1 h2 h3 h4 _ ih =>
    refine .cons (fun w hw => ?_) ih
    cases vs with
    | nil => cases hw
    | cons v' vs' =>
      have hv : rank v < rank v' := hr v' v (h4 v' rfl)
      rcases List.mem_cons.mp hw with rfl | hw
      · exact hv
      · exact Nat.lt_trans hv ((List.pairwise_cons.mp ih).1 w hw)

/-- A reported cycle is real.  The visiting nodes form a dependency chain ending in the top of the
    stack, and a neighbour of the top is among them: no rank function can decrease along it. -/
theorem step_cycle_sound {s : St} (h : Inv nbrs s) (hs : step nbrs knownF s = .cycle) :
    ¬ Acyclic nbrs := by
  rintro ⟨rank, hr⟩
  cases step_spec nbrs knownF hs with
  | @cycle top rest vg vd o hvd hscan =>
    obtain ⟨n, hn, hnv⟩ := hscan
    have hlt : rank n < rank top := hr top n hn
    have hvg : top ∉ vg := fun h' => hvd ((h.visited_iff top).mpr (.inl h'))
    rcases List.mem_cons.mp hnv with rfl | hnv
    · omega
    · cases vg with
      | nil => cases hnv
      | cons v vs =>
        have htv : rank top < rank v := hr v top ((h.frames.pop hvg).1 v rfl)
        have hsorted := List.pairwise_cons.mp (frames_rank_sorted nbrs h.frames rank hr)
        rcases List.mem_cons.mp hnv with rfl | hnv
        · omega
        · have := hsorted.1 n hnv
          omega

/-- no root is lost: at the end (empty stack) every root has been visited, hence finished -/
def Cover (init : List Nat) (s : St) : Prop := ∀ x ∈ init, x ∈ s.stack ∨ x ∈ s.visited

theorem cover_step {init : List Nat} {s s' : St} (h : Cover init s)
    (hs : step nbrs knownF s = .running s') : Cover init s' := by
  intro x hx
  have hx := h x hx
  cases step_spec nbrs knownF hs with
  | finish hvd | pop hvd =>
    rcases hx with hx | hx
    · rcases List.mem_cons.mp hx with rfl | hx
      · exact .inr hvd
      · exact .inl hx
    · exact .inr hx
  | push =>
    simp only [List.mem_cons, List.mem_append] at hx ⊢
    rcases hx with (rfl | hx) | hx
    · exact .inr (.inl rfl)
    · exact .inl (.inr (.inr hx))
    · exact .inr (.inr hx)

/-! ## termination: the potential `|stack| + cost` decreases with every step -/

theorem cost_cons (y : Nat) (ys vis : List Nat) :
    cost nbrs (y :: ys) vis = (if y ∈ vis then 0 else (nbrs y).length + 1) + cost nbrs ys vis := by
  by_cases h : y ∈ vis <;> simp [cost, h]

/-- visiting `x` for the first time pays for every occurrence of `x` in `U` -/
theorem cost_visit {x : Nat} {vis : List Nat} (hx : x ∉ vis) (U : List Nat) :
    cost nbrs U (x :: vis) + U.count x * ((nbrs x).length + 1) = cost nbrs U vis := by
  induction U with
  | nil => simp [cost]
  | cons y ys ih =>
    rw [cost_cons, cost_cons, ← ih, List.count_cons]
    by_cases e : y = x
    · subst e
      simp [hx, Nat.add_mul]
      omega
    · simp [e]
      omega

/-- the potential: the stack height plus, for every node of `U` not yet visited, what its first
    visit will cost (one entry per neighbour pushed, and the visit itself) -/
def mu (U : List Nat) (s : St) : Nat := s.stack.length + cost nbrs U s.visited

/-- the machine stays inside `U`: a first visit then lowers the potential (the node is counted in
    `cost nbrs U`), and the finish order lies inside `U` -/
def Within (U : List Nat) (s : St) : Prop := (∀ x ∈ s.stack, x ∈ U) ∧ ∀ x ∈ s.visited, x ∈ U

theorem step_mu {U : List Nat} (hnd : U.Nodup) (hk : ∀ n, knownF n = true → n ∈ U)
    {s s' : St} (hin : Within U s) (hs : step nbrs knownF s = .running s') :
    mu nbrs U s' < mu nbrs U s ∧ Within U s' := by
  obtain ⟨hst, hvd⟩ := hin
  cases step_spec nbrs knownF hs with
  | finish | pop => exact ⟨by simp [mu], fun x hx => hst x (by simp [hx]), hvd⟩
  | @push top rest vg vd o hvis hscan =>
    have htop : top ∈ U := hst top (by simp)
    have hc := cost_visit nbrs hvis U
    rw [hnd.count, if_pos htop] at hc
    refine ⟨?_, fun x hx => ?_, fun x hx => ?_⟩
    · simp [mu]
      omega
    · rcases List.mem_append.mp hx with h | h
      · exact hk x (hscan x (by simpa using h)).2
      · exact hst x h
    · rcases List.mem_cons.mp hx with rfl | h
      · exact htop
      · exact hvd x h

theorem run_spec {U init : List Nat} (hnd : U.Nodup) (hk : ∀ n, knownF n = true → n ∈ U) :
    ∀ (fuel : Nat) (s : St), Inv nbrs s → Cover init s → Within U s → mu nbrs U s < fuel →
    match run nbrs knownF fuel s with
    | .noCycle o => Topo nbrs o ∧ o.Nodup ∧ (∀ x ∈ init, x ∈ o) ∧ ∀ x ∈ o, x ∈ U
    | .cycle => ¬ Acyclic nbrs
    | .keyError => ∃ u, ∃ d ∈ nbrs u, knownF d = false
    | .outOfFuel => False := by
  intro fuel
  induction fuel with
  | zero => exact fun _ _ _ _ hf => nomatch hf
  | succ fuel ih =>
    intro s hi hc hw hf
    unfold run
    cases hst : step nbrs knownF s with
    | cycle => exact step_cycle_sound nbrs knownF hi hst
    | keyError =>
      cases step_spec nbrs knownF hst with
      | keyError _ hscan => exact ⟨_, hscan⟩
    | done o =>
      cases step_spec nbrs knownF hst with
      | @done vg vd o =>
        obtain rfl : vg = [] := hi.frames.nil_stack rfl
        have hord : ∀ x, x ∈ vd ↔ x ∈ o := by simpa using hi.visited_iff
        exact ⟨hi.topo, hi.nodupO, fun x hx => (hord x).mp ((hc x hx).resolve_left (by simp)),
          fun x hx => hw.2 x ((hord x).mpr hx)⟩
    | running s' =>
      obtain ⟨hlt, hw'⟩ := step_mu nbrs knownF hnd hk hw hst
      exact ih s' (inv_step nbrs knownF hi hst) (cover_step nbrs knownF hc hst) hw' (by omega)

/-- from the initial state: the stack is `init` reversed (the last root is on top) -/
theorem run_init {U init : List Nat} (hnd : U.Nodup) (hk : ∀ n, knownF n = true → n ∈ U)
    (hinit : ∀ x ∈ init, x ∈ U) {fuel : Nat} (hf : init.length + cost nbrs U [] < fuel) :
    match run nbrs knownF fuel ⟨init.reverse, [], [], []⟩ with
    | .noCycle o => Topo nbrs o ∧ o.Nodup ∧ (∀ x ∈ init, x ∈ o) ∧ ∀ x ∈ o, x ∈ U
    | .cycle => ¬ Acyclic nbrs
    | .keyError => ∃ u, ∃ d ∈ nbrs u, knownF d = false
    | .outOfFuel => False :=
  run_spec nbrs knownF hnd hk fuel _ (init_inv nbrs _) (fun x hx => .inl (by simpa using hx))
    ⟨fun x hx => hinit x (by simpa using hx), by simp⟩ (by simpa [mu] using hf)

/-- a topological finish order that contains every node with outgoing edges is a rank function -/
theorem topo_acyclic {o : List Nat} (ht : Topo nbrs o)
    (hall : ∀ u, nbrs u ≠ [] → u ∈ o) : Acyclic nbrs := by
  refine ⟨fun u => o.idxOf u, fun u d hd => ?_⟩
  have hu : u ∈ o := hall u (List.ne_nil_of_mem hd)
  obtain ⟨pre, post, rfl, hnot⟩ := List.eq_append_cons_of_mem hu
  have hdpre : d ∈ pre := ht pre u post rfl d hd
  have h1 : List.idxOf u (pre ++ u :: post) = pre.length := by
    rw [List.idxOf_append]
    simp [hnot]
  have h2 : List.idxOf d (pre ++ u :: post) < pre.length := by
    rw [List.idxOf_append]
    simp [hdpre]
    exact List.idxOf_lt_length_of_mem hdpre
  simp only
  omega

end Dagrt.Verify
