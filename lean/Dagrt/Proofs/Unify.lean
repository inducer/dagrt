import Dagrt.Model.Kinds
/-!
`unify` (C14): commutative, idempotent and associative wherever it is defined, by case analysis on the
kinds; the order `le` it induces on `Option Kind`, of which it is the least upper bound.
-/
namespace Dagrt.Kinds

@[simp] theorem unify_none_right (a : Option Kind) : unify a none = .ok a := by
  cases a <;> simp [unify]
@[simp] theorem unify_none_left (b : Option Kind) : unify none b = .ok b := by
  simp [unify]

theorem unify_comm_some (ka kb : Kind) (r : Option Kind) (h : unify (some ka) (some kb) = .ok r) :
    unify (some kb) (some ka) = .ok r := by
  cases ka <;> cases kb <;> simp only [unify] at h ⊢ <;> grind

theorem unify_comm (a b r : Option Kind) (h : unify a b = .ok r) : unify b a = .ok r := by
  cases a with
  | none => cases b <;> simp_all [unify]
  | some ka =>
    cases b with
    | none => simp_all [unify]
    | some kb => exact unify_comm_some ka kb r h

theorem unify_idem (a r : Option Kind) (h : unify a a = .ok r) : r = a := by
  cases a with
  | none => simp_all [unify]
  | some ka => cases ka <;> simp_all [unify]

theorem toOption_eq_some {α : Type} {x : Except KErr α} {r : α} : x.toOption = some r ↔ x = .ok r := by
  cases x <;> simp [Except.toOption]

/-- associativity on known kinds, as one equation: which error a failing grouping raises is left aside -/
theorem unify_assoc_some (ka kb kc : Kind) :
    ((unify (some ka) (some kb)).bind (fun ab => unify ab (some kc))).toOption =
    ((unify (some kb) (some kc)).bind (fun bc => unify (some ka) bc)).toOption := by
  cases ka <;> cases kb <;> cases kc <;> simp only [unify, Except.bind, Except.toOption, Bool.and_assoc] <;> grind

theorem unify_assoc_iff (a b c r : Option Kind) :
    (unify a b).bind (fun ab => unify ab c) = .ok r ↔ (unify b c).bind (fun bc => unify a bc) = .ok r := by
  suffices h : ((unify a b).bind (fun ab => unify ab c)).toOption =
      ((unify b c).bind (fun bc => unify a bc)).toOption by
    rw [← toOption_eq_some, ← toOption_eq_some, h]
  cases a with
  | none => cases h : unify b c <;> simp [Except.bind, h]
  | some ka =>
    cases b with
    | none => simp [Except.bind]
    | some kb =>
      cases c with
      | none => cases h : unify (some ka) (some kb) <;> simp [Except.bind, h]
      | some kc => exact unify_assoc_some ka kb kc

/-! the information order induced by `unify`: `a ⊑ b` iff joining `a` into `b` gives `b`; `a = b` is added
    because `unify` raises on two flags, which would leave `some .boolean` not below itself -/
def le (a b : Option Kind) : Prop := a = b ∨ unify a b = .ok b

theorem le_refl (a : Option Kind) : le a a := Or.inl rfl

theorem le_none (a : Option Kind) : le none a := Or.inr (by simp)

theorem le_some_none (k : Kind) : ¬ le (some k) none := by
  intro h
  rcases h with h | h
  · cases h
  · simp at h

theorem le_antisymm (a b : Option Kind) (h1 : le a b) (h2 : le b a) : a = b := by
  rcases h1 with h1 | h1
  · exact h1
  rcases h2 with h2 | h2
  · exact h2.symm
  have := unify_comm a b b h1
  rw [h2] at this; cases this; rfl

theorem le_trans (a b c : Option Kind) (h1 : le a b) (h2 : le b c) : le a c := by
  rcases h1 with h1 | h1
  · subst h1; exact h2
  rcases h2 with h2 | h2
  · subst h2; exact Or.inr h1
  right
  -- a ⊔ c = a ⊔ (b ⊔ c) = (a ⊔ b) ⊔ c = b ⊔ c = c
  have h : (unify a b).bind (fun ab => unify ab c) = .ok c := by simp [h1, Except.bind, h2]
  have := (unify_assoc_iff a b c c).mp h
  simpa [h2, Except.bind] using this

theorem unify_upper_left (a b c : Option Kind) (h : unify a b = .ok c) : le a c := by
  cases a with
  | none => exact le_none c
  | some ka =>
    cases b with
    | none => simp at h; subst h; exact le_refl _
    | some kb =>
      right
      cases ka <;> cases kb <;> simp only [unify] at h <;> (try split at h) <;> cases h <;> simp [unify]

theorem unify_some_isSome (ka kb : Kind) (r : Option Kind) (h : unify (some ka) (some kb) = .ok r) :
    ∃ k, r = some k := by
  cases r with
  | some k => exact ⟨k, rfl⟩
  | none => exact absurd (unify_upper_left _ _ _ h) (le_some_none ka)

theorem unify_upper_right (a b c : Option Kind) (h : unify a b = .ok c) : le b c :=
  unify_upper_left b a c (unify_comm a b c h)

theorem unify_least (a b c d : Option Kind) (h : unify a b = .ok c) (ha : le a d) (hb : le b d) :
    le c d := by
  rcases ha with ha | ha
  · subst ha
    -- b ⊑ a, so a ⊔ b = a
    rcases hb with hb | hb
    · subst hb; have := unify_idem b c h; subst this; exact le_refl _
    · have := unify_comm b a a hb; rw [h] at this; cases this; exact le_refl _
  rcases hb with hb | hb
  · subst hb; rw [ha] at h; cases h; exact le_refl _
  right
  -- c ⊔ d = (a ⊔ b) ⊔ d = a ⊔ (b ⊔ d) = a ⊔ d = d
  have h' : (unify b d).bind (fun bd => unify a bd) = .ok d := by simp [hb, Except.bind, ha]
  have := (unify_assoc_iff a b d d).mpr h'
  simpa [h, Except.bind] using this

theorem unifyK_ok (ka kb k : Kind) : unifyK ka kb = .ok k ↔ unify (some ka) (some kb) = .ok (some k) := by
  unfold unifyK
  cases h : unify (some ka) (some kb) with
  | error e => simp
  | ok r => cases r <;> simp

theorem le_some_iff {k k' : Kind} : le (some k) (some k') ↔ k = k' ∨ unifyK k k' = .ok k' := by
  simp [le, unifyK_ok]

end Dagrt.Kinds
