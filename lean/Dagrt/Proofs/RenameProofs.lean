import Dagrt.Proofs.StmtProofs
/-!
C16: renaming commutes with execution - the substitution lemma for the statement semantics.

Proved once, relative to a predicate `P` on names (`exec_renameP`): the renaming has to be injective
on `P`, the two stores have to correspond on `P`, the statement's names have to satisfy `P`.
`exec_rename` (injective everywhere, `Rel`) is the case `P = fun _ => True`; `exec_renameOn`
(injective on a list `S`, `RelOn`: what fusion's renaming provides, it is injective on the names in
use) is the case `P = (· ∈ S)`.  The two sections at the end state for these two cases what
`evalI_renP` and `runLoops_renP` say of the list evaluators and of `iterate`; C16 itself goes through
`exec_renameP`.
-/
namespace Dagrt.Sem
open Dagrt Dagrt.Fuse

def renEnv (ρ : Name → Name) (env : List (Name × Int)) : List (Name × Int) := env.map (fun p => (ρ p.1, p.2))

def Rel (ρ : Name → Name) (σ σ' : Store) : Prop := ∀ x, σ' (ρ x) = σ x

def RelOn (ρ : Name → Name) (S : List Name) (σ σ' : Store) : Prop := ∀ x ∈ S, σ' (ρ x) = σ x

def InjP (ρ : Name → Name) (P : Name → Prop) : Prop := ∀ x, P x → ∀ y, P y → ρ x = ρ y → x = y

def RelP (ρ : Name → Name) (P : Name → Prop) (σ σ' : Store) : Prop := ∀ x, P x → σ' (ρ x) = σ x

theorem rel_iff_relP {ρ : Name → Name} {σ σ' : Store} : Rel ρ σ σ' ↔ RelP ρ (fun _ => True) σ σ' :=
  ⟨fun h x _ => h x, fun h x => h x trivial⟩

/-- every name a loop nest mentions: counters and the variables of the bounds -/
def loopNames : List (Name × Expr × Expr) → List Name
  | [] => []
  | (i, lo, hi) :: r => i :: (depVars lo ++ depVars hi ++ loopNames r)

/-- every name a statement mentions: guard, right-hand sides, subscripts, assignees, loop counters and
    bounds, call arguments, yielded value and time -/
def stmtNames (s : Stmt) : List Name :=
  depVars s.cond ++
  match s.kind with
  | .assign lhs sub rhs loops =>
    lhs :: (depVars rhs ++ (match sub with | some i => depVars i | none => []) ++ loopNames loops)
  | .callAssign lhs _ args kw => lhs ++ depVarsL args ++ depVarsK kw
  | .yield e t _ _ => depVars e ++ depVars t
  | _ => []

/-- Facts about two loop nests go by induction on the list of loops, with this lemma for the
    `iterate` of the head: a `mutual` theorem over `runLoops` / `iterate` makes Lean search for a
    termination measure and is very slow to elaborate. -/
theorem iterate_rel {R : Acc → Acc → Prop} {F F' : Funs} {lhs lhs' : Name} {sub sub' : Option Expr} {rhs rhs' : Expr}
    {rest rest' : List (Name × Expr × Expr)} {env env' : List (Name × Int)} {i i' : Name}
    (body : ∀ k a b, R a b → R (runLoops F lhs sub rhs rest ((i, k) :: env) a)
      (runLoops F' lhs' sub' rhs' rest' ((i', k) :: env') b)) :
    ∀ n k a b, R a b → R (iterate F lhs sub rhs rest env i k n a) (iterate F' lhs' sub' rhs' rest' env' i' k n b) := by
  intro n
  induction n with
  | zero =>
    intro k a b h
    simp only [iterate]
    exact h
  | succ n ih =>
    intro k a b h
    simp only [iterate]
    exact ih (k + 1) _ _ (body k a b h)

section general
variable {F : Funs} {ρ : Name → Name} {P : Name → Prop} (hinj : InjP ρ P)
  (hF : ∀ f vs ks, F (ρ f) vs ks = F f vs ks)
include hinj

theorem lookupEnv_renP {x : Name} (hx : P x) (env : List (Name × Int)) (henv : ∀ p ∈ env, P p.1) :
    lookupEnv (renEnv ρ env) (ρ x) = lookupEnv env x := by
  induction env with
  | nil => rfl
  | cons p r ih =>
    obtain ⟨hp, hr⟩ := List.forall_mem_cons.1 henv
    have hk : ρ p.1 = ρ x ↔ p.1 = x := ⟨hinj p.1 hp x hx, congrArg ρ⟩
    have ih := ih hr
    simp only [renEnv, List.map_cons, lookupEnv, hk] at ih ⊢
    rw [ih]

theorem relP_set {x : Name} (hx : P x) (c : Cell) {σ σ' : Store} (h : RelP ρ P σ σ') :
    RelP ρ P (σ.set x c) (σ'.set (ρ x) c) := by
  intro y hy
  have : ρ y = ρ x ↔ y = x := ⟨hinj y hy x hx, congrArg ρ⟩
  simp only [Store.set, this]
  split
  · rfl
  · exact h y hy

theorem assignResults_renP (xs : List Name) (vs : List Val) (a a' : Acc) (hx : ∀ x ∈ xs, P x)
    (h : RelP ρ P a.σ a'.σ) : RelP ρ P (assignResults a xs vs).σ (assignResults a' (xs.map ρ) vs).σ := by
  induction xs generalizing vs a a' with
  | nil => exact h
  | cons x xs ih =>
    cases vs with
    | nil => exact h
    | cons v vs =>
      exact ih vs _ _ (fun y hy => hx y (List.mem_cons_of_mem _ hy)) (relP_set hinj (hx x List.mem_cons_self) _ h)

include hF

theorem evalI_renP {σ σ' : Store} (hrel : RelP ρ P σ σ') (e : Expr) (env : List (Name × Int))
    (hv : ∀ x ∈ depVars e, P x) (henv : ∀ p ∈ env, P p.1) :
    (evalI F (renEnv ρ env) σ' (renameExpr ρ e)).1 = (evalI F env σ e).1 := by
  refine (evalI_rel AppendClosed.true hF e fun x hx => ⟨?_, trivial⟩).1.symm
  simp only [evalI, lookupEnv_renP hinj (hv x hx) env henv]
  cases lookupEnv env x with
  | some i => rfl
  | none => simp only [Store.get, hrel x (hv x hx)]

theorem renP_elems {σ σ' : Store} (hrel : RelP ρ P σ σ') (cs : List Expr) (env : List (Name × Int))
    (hv : ∀ x ∈ depVarsL cs, P x) (henv : ∀ p ∈ env, P p.1) :
    ∀ c ∈ cs, ResRel (fun _ _ => True) (evalI F env σ c) (evalI F (renEnv ρ env) σ' (renameExpr ρ c)) :=
  forall_of_depVarsL (fun c _ hc => ⟨(evalI_renP hinj hF hrel c env hc henv).symm, trivial⟩) hv

theorem assignOnce_renP {env : List (Name × Int)} {lhs : Name} {sub : Option Expr} {rhs : Expr} {a a' : Acc}
    (hl : P lhs) (hr : ∀ x ∈ depVars rhs, P x) (hs : ∀ i ∈ sub, ∀ x ∈ depVars i, P x)
    (henv : ∀ p ∈ env, P p.1) (h : RelP ρ P a.σ a'.σ) :
    RelP ρ P (assignOnce F env lhs sub rhs a).σ
      (assignOnce F (renEnv ρ env) (ρ lhs) (sub.map (renameExpr ρ)) (renameExpr ρ rhs) a').σ := by
  cases sub with
  | none =>
    simp only [assignOnce, Option.map_none, Acc.write, Acc.read, evalI_renP hinj hF h rhs env hr henv]
    exact relP_set hinj hl _ h
  | some i =>
    have hget : a'.σ.get (ρ lhs) = a.σ.get lhs := by simp only [Store.get, h lhs hl]
    simp only [assignOnce, Option.map_some, Acc.write, Acc.read, evalI_renP hinj hF h rhs env hr henv,
      evalI_renP hinj hF h i env (hs i rfl) henv, hget]
    exact relP_set hinj hl _ h

theorem runLoops_renP {lhs : Name} {sub : Option Expr} {rhs : Expr}
    (hl : P lhs) (hr : ∀ x ∈ depVars rhs, P x) (hs : ∀ i ∈ sub, ∀ x ∈ depVars i, P x) :
    ∀ (loops : List (Name × Expr × Expr)) (env : List (Name × Int)) (a a' : Acc),
      (∀ x ∈ loopNames loops, P x) → (∀ p ∈ env, P p.1) → RelP ρ P a.σ a'.σ →
      RelP ρ P (runLoops F lhs sub rhs loops env a).σ
        (runLoops F (ρ lhs) (sub.map (renameExpr ρ)) (renameExpr ρ rhs) (renameLoops ρ loops) (renEnv ρ env) a').σ := by
  intro loops
  induction loops with
  | nil =>
    intro env a a' _ henv h
    simp only [renameLoops, runLoops]
    exact assignOnce_renP hinj hF hl hr hs henv h
  | cons l rest ih =>
    obtain ⟨i, lo, hi⟩ := l
    intro env a a' hn henv h
    simp only [loopNames, List.forall_mem_cons, List.forall_mem_append] at hn
    obtain ⟨hi', ⟨hlo, hhi⟩, hrest⟩ := hn
    simp only [renameLoops, runLoops, evalI_renP hinj hF h lo env hlo henv, evalI_renP hinj hF h hi env hhi henv]
    refine iterate_rel (R := fun a a' => RelP ρ P a.σ a'.σ) (fun k a a' h => ?_) _ _ _ _ h
    exact ih ((i, k) :: env) a a' hrest (List.forall_mem_cons.2 ⟨hi', henv⟩) h

variable (hexec : ρ EXEC = EXEC) (hE : P EXEC)
include hexec hE

theorem kindT_renP (c : Expr) (k : Kind) (hs : ∀ x ∈ stmtNames ⟨c, k⟩, P x) {a a' : Acc}
    (h : RelP ρ P a.σ a'.σ) : RelP ρ P (kindT F k a).σ (kindT F (renameStmt ρ ⟨c, k⟩).kind a').σ := by
  have hlog : a'.σ.log = a.σ.log := by simp only [Store.log, ← h EXEC hE, hexec]
  have hset : ∀ cell, RelP ρ P (a.σ.set EXEC cell) (a'.σ.set EXEC cell) := fun cell => by
    have := relP_set hinj hE cell h
    rwa [hexec] at this
  have ev : ∀ e, (∀ x ∈ depVars e, P x) → (evalI F [] a'.σ (renameExpr ρ e)).1 = (evalI F [] a.σ e).1 :=
    fun e he => evalI_renP hinj hF h e [] he nofun
  have hk := fun x hx => hs x (List.mem_append_right _ hx)
  cases k with
  | assign lhs sub rhs loops =>
    simp only [List.forall_mem_cons, List.forall_mem_append] at hk
    obtain ⟨hl, ⟨hr, hsub⟩, hloops⟩ := hk
    exact runLoops_renP hinj hF hl hr (fun i hi => by cases hi; exact hsub) loops [] a a' hloops nofun h
  | callAssign lhs f args kw =>
    simp only [List.forall_mem_append] at hk
    obtain ⟨⟨hlhs, hargs⟩, hkw⟩ := hk
    have ha : (evalArgs F [] a.σ args).1 = (evalArgs F [] a'.σ (args.map (renameExpr ρ))).1 :=
      (evalArgs_rel AppendClosed.true args (renP_elems hinj hF h args [] hargs nofun)).1
    have hkw' := (evalKw_rel (σ := a.σ) (σ' := a'.σ) (f := renameExpr ρ) AppendClosed.true kw fun p hp =>
      ⟨(ev p.2 fun x hx => hkw x (mem_depVarsK.2 ⟨p, hp, hx⟩)).symm, trivial⟩).1
    simp only [kindT, renameStmt, renameL_eq_map, renameK_eq_map, ← ha, ← hkw', hF]
    exact assignResults_renP hinj lhs _ _ _ hlhs h
  | yield e t tid comp =>
    simp only [List.forall_mem_append] at hk
    simp only [kindT, renameStmt, setExec, Acc.read, hlog, ev e hk.1, ev t hk.2]
    exact hset _
  | raise err | fail | switch p =>
    simp only [kindT, renameStmt, setExec, hlog]
    exact hset _
  | nop => exact h

/-- `exec_rename` for the names satisfying `P`, which include the statement's names and `<exec>` -/
theorem exec_renameP (s : Stmt) (hs : ∀ x ∈ stmtNames s, P x)
    {σ σ' : Store} (h : RelP ρ P σ σ') : RelP ρ P (exec F s σ) (exec F (renameStmt ρ s) σ') := by
  have hst : σ'.status = σ.status := by simp only [Store.status, ← h EXEC hE, hexec]
  have hc : (evalI F [] σ' (renameExpr ρ s.cond)).1 = (evalI F [] σ s.cond).1 :=
    evalI_renP hinj hF h s.cond [] (fun x hx => hs x (List.mem_append_left _ hx)) nofun
  simp only [exec, execI_eq, execT, hst]
  cases σ.status with
  | running =>
    simp only [guardT, renameStmt, hc]
    cases (evalI F [] σ s.cond).1.truthy
    · exact h
    · exact kindT_renP hinj hF hexec hE s.cond s.kind hs h
  | _ => exact h
end general

section
variable (F : Funs) (ρ : Name → Name) (hinj : ∀ x y, ρ x = ρ y → x = y)
  (hF : ∀ f vs ks, F (ρ f) vs ks = F f vs ks) (σ σ' : Store) (hrel : Rel ρ σ σ')
include hinj hF hrel

theorem ren_elems (cs : List Expr) (env : List (Name × Int)) :
    ∀ c ∈ cs, ResRel (fun _ _ => True) (evalI F env σ c) (evalI F (renEnv ρ env) σ' (renameExpr ρ c)) :=
  renP_elems (P := fun _ => True) (fun x _ y _ => hinj x y) hF (rel_iff_relP.1 hrel) cs env (fun _ _ => trivial)
    fun _ _ => trivial

theorem evalFold_ren (op : Val → Val → Val) : ∀ (acc : Val) (cs : List Expr) (env : List (Name × Int)),
    (evalFold F (renEnv ρ env) σ' op acc (renameL ρ cs)).1 = (evalFold F env σ op acc cs).1 := fun acc cs env =>
  renameL_eq_map ρ cs ▸ (evalFold_rel AppendClosed.true op cs acc (ren_elems F ρ hinj hF σ σ' hrel cs env)).1.symm
theorem evalFold1_ren (op : Val → Val → Val) : ∀ (cs : List Expr) (env : List (Name × Int)),
    (evalFold1 F (renEnv ρ env) σ' op (renameL ρ cs)).1 = (evalFold1 F env σ op cs).1 := fun cs env =>
  renameL_eq_map ρ cs ▸ (evalFold1_rel AppendClosed.true op cs (ren_elems F ρ hinj hF σ σ' hrel cs env)).1.symm
theorem evalAll_ren : ∀ (cs : List Expr) (env : List (Name × Int)),
    (evalAll F (renEnv ρ env) σ' (renameL ρ cs)).1 = (evalAll F env σ cs).1 := fun cs env =>
  renameL_eq_map ρ cs ▸ (evalAll_rel AppendClosed.true cs (ren_elems F ρ hinj hF σ σ' hrel cs env)).1.symm
theorem evalAny_ren : ∀ (cs : List Expr) (env : List (Name × Int)),
    (evalAny F (renEnv ρ env) σ' (renameL ρ cs)).1 = (evalAny F env σ cs).1 := fun cs env =>
  renameL_eq_map ρ cs ▸ (evalAny_rel AppendClosed.true cs (ren_elems F ρ hinj hF σ σ' hrel cs env)).1.symm

set_option linter.unusedSectionVars false in
theorem iterate_ren (lhs : Name) (sub : Option Expr) (rhs : Expr) (rest : List (Name × Expr × Expr))
    (env : List (Name × Int)) (i : Name) :
    ∀ (k : Int) (n : Nat) (a a' : Acc), Rel ρ a.σ a'.σ →
      Rel ρ (iterate F lhs sub rhs rest env i k n a).σ
        (iterate F (ρ lhs) (sub.map (renameExpr ρ)) (renameExpr ρ rhs) (renameLoops ρ rest) (renEnv ρ env) (ρ i) k n a').σ :=
  fun k n => iterate_rel (R := fun a a' => Rel ρ a.σ a'.σ) (fun k a a' h => rel_iff_relP.2
    (runLoops_renP (P := fun _ => True) (fun x _ y _ => hinj x y) hF trivial (fun _ _ => trivial)
      (fun _ _ _ _ => trivial) rest ((i, k) :: env) a a' (fun _ _ => trivial) (fun _ _ => trivial)
      (rel_iff_relP.1 h))) n k
end

/-- **Renaming commutes with execution**: a statement whose names were renamed injectively (the
    event pseudo-variable and the meaning of function symbols untouched), run on a store that holds
    under the new names what the original store holds under the old ones, leaves a store that again
    holds under the new names what the original statement leaves under the old ones -/
theorem exec_rename (F : Funs) (ρ : Name → Name) (hinj : ∀ x y, ρ x = ρ y → x = y)
    (hF : ∀ f vs ks, F (ρ f) vs ks = F f vs ks) (hexec : ρ EXEC = EXEC) (s : Stmt) (σ σ' : Store)
    (h : Rel ρ σ σ') : Rel ρ (exec F s σ) (exec F (renameStmt ρ s) σ') :=
  rel_iff_relP.2 (exec_renameP (P := fun _ => True) (fun x _ y _ => hinj x y) hF hexec trivial s
    (fun _ _ => trivial) (rel_iff_relP.1 h))

section
variable (F : Funs) (ρ : Name → Name) (S : List Name) (hinj : ∀ x ∈ S, ∀ y ∈ S, ρ x = ρ y → x = y)
  (hF : ∀ f vs ks, F (ρ f) vs ks = F f vs ks) (σ σ' : Store) (hrel : RelOn ρ S σ σ')
include hinj hF hrel

theorem renOn_elems (cs : List Expr) (env : List (Name × Int)) (hv : ∀ x ∈ depVarsL cs, x ∈ S)
    (henv : ∀ p ∈ env, p.1 ∈ S) :
    ∀ c ∈ cs, ResRel (fun _ _ => True) (evalI F env σ c) (evalI F (renEnv ρ env) σ' (renameExpr ρ c)) :=
  renP_elems (P := (· ∈ S)) hinj hF hrel cs env hv henv

theorem evalFold_renOn (op : Val → Val → Val) : ∀ (acc : Val) (cs : List Expr) (env : List (Name × Int)),
    (∀ x ∈ depVarsL cs, x ∈ S) → (∀ p ∈ env, p.1 ∈ S) →
    (evalFold F (renEnv ρ env) σ' op acc (renameL ρ cs)).1 = (evalFold F env σ op acc cs).1 := fun acc cs env hv henv =>
  renameL_eq_map ρ cs ▸ (evalFold_rel AppendClosed.true op cs acc (renOn_elems F ρ S hinj hF σ σ' hrel cs env hv henv)).1.symm
theorem evalFold1_renOn (op : Val → Val → Val) : ∀ (cs : List Expr) (env : List (Name × Int)),
    (∀ x ∈ depVarsL cs, x ∈ S) → (∀ p ∈ env, p.1 ∈ S) →
    (evalFold1 F (renEnv ρ env) σ' op (renameL ρ cs)).1 = (evalFold1 F env σ op cs).1 := fun cs env hv henv =>
  renameL_eq_map ρ cs ▸ (evalFold1_rel AppendClosed.true op cs (renOn_elems F ρ S hinj hF σ σ' hrel cs env hv henv)).1.symm
theorem evalAll_renOn : ∀ (cs : List Expr) (env : List (Name × Int)),
    (∀ x ∈ depVarsL cs, x ∈ S) → (∀ p ∈ env, p.1 ∈ S) →
    (evalAll F (renEnv ρ env) σ' (renameL ρ cs)).1 = (evalAll F env σ cs).1 := fun cs env hv henv =>
  renameL_eq_map ρ cs ▸ (evalAll_rel AppendClosed.true cs (renOn_elems F ρ S hinj hF σ σ' hrel cs env hv henv)).1.symm
theorem evalAny_renOn : ∀ (cs : List Expr) (env : List (Name × Int)),
    (∀ x ∈ depVarsL cs, x ∈ S) → (∀ p ∈ env, p.1 ∈ S) →
    (evalAny F (renEnv ρ env) σ' (renameL ρ cs)).1 = (evalAny F env σ cs).1 := fun cs env hv henv =>
  renameL_eq_map ρ cs ▸ (evalAny_rel AppendClosed.true cs (renOn_elems F ρ S hinj hF σ σ' hrel cs env hv henv)).1.symm

set_option linter.unusedSectionVars false in
theorem iterate_renOn (lhs : Name) (sub : Option Expr) (rhs : Expr)
    (hl : lhs ∈ S) (hr : ∀ x ∈ depVars rhs, x ∈ S) (hs : ∀ i, sub = some i → ∀ x ∈ depVars i, x ∈ S)
    (rest : List (Name × Expr × Expr)) (env : List (Name × Int)) (i : Name) (hi : i ∈ S)
    (hrest : ∀ x ∈ loopNames rest, x ∈ S) (henv : ∀ p ∈ env, p.1 ∈ S) :
    ∀ (k : Int) (n : Nat) (a a' : Acc), RelOn ρ S a.σ a'.σ →
      RelOn ρ S (iterate F lhs sub rhs rest env i k n a).σ
        (iterate F (ρ lhs) (sub.map (renameExpr ρ)) (renameExpr ρ rhs) (renameLoops ρ rest) (renEnv ρ env) (ρ i) k n a').σ :=
  fun k n => iterate_rel (R := fun a a' => RelOn ρ S a.σ a'.σ) (env' := renEnv ρ env) (i' := ρ i) (fun k a a' h =>
    runLoops_renP (P := (· ∈ S)) hinj hF hl hr (fun i hi => hs i hi) rest ((i, k) :: env) a a' hrest
      (by simpa only [List.mem_cons, forall_eq_or_imp] using ⟨hi, henv⟩) h) n k
end

/-- **Renaming commutes with execution, on a set of names**: the renaming is injective on `S`, the
    stores correspond on `S`, the statement's names and the event pseudo-variable lie in `S` -/
theorem exec_renameOn (F : Funs) (ρ : Name → Name) (S : List Name)
    (hinj : ∀ x ∈ S, ∀ y ∈ S, ρ x = ρ y → x = y)
    (hF : ∀ f vs ks, F (ρ f) vs ks = F f vs ks) (hexec : ρ EXEC = EXEC) (hE : EXEC ∈ S) (s : Stmt)
    (hs : ∀ x ∈ stmtNames s, x ∈ S) (σ σ' : Store)
    (h : RelOn ρ S σ σ') : RelOn ρ S (exec F s σ) (exec F (renameStmt ρ s) σ') :=
  exec_renameP (P := (· ∈ S)) hinj hF hexec hE s hs h

end Dagrt.Sem
