import Dagrt.Proofs.SemProofs
/-!
What executing one statement reads, writes, leaves alone and depends on (C08; the frame facts of
C02, C11, C16).  `Good R W T` says it of a transformation `T` of the instrumented state; `execI` is
shown to be one for `effR s` / `effW s` by building it up from reads, stores, sequencing
(`Good.comp`, `Good.bind`) and loops, the way the interpreter does.  Other modules use the four
facts `execI_reads`, `execI_writes`, `exec_frame`, `exec_agree` and the equations at the end;
`RenameProofs` follows the same decomposition (`execI_eq`, `execT`, `guardT`, `kindT`) for two runs.
-/
namespace Dagrt.Sem
open Dagrt

/-- a transformation of the instrumented state that reads at most `R`, writes at most `W`,
    leaves every other cell alone and preserves agreement on any set containing `R` and `W` -/
structure Good (R W : List Name) (T : Acc → Acc) : Prop where
  reads : ∀ a, ∀ x ∈ (T a).reads, x ∈ a.reads ∨ x ∈ R
  writes : ∀ a, ∀ x ∈ (T a).writes, x ∈ a.writes ∨ x ∈ W
  frame : ∀ a x, x ∉ W → (T a).σ x = a.σ x
  agree : ∀ S a b, (∀ x ∈ R, x ∈ S) → (∀ x ∈ W, x ∈ S) → AgreeOn S a.σ b.σ → AgreeOn S (T a).σ (T b).σ

theorem Good.id (R W : List Name) : Good R W (fun a => a) :=
  ⟨fun _ _ h => .inl h, fun _ _ h => .inl h, fun _ _ _ => rfl, fun _ _ _ _ _ h => h⟩

theorem Good.comp {R W : List Name} {T1 T2 : Acc → Acc} (h1 : Good R W T1) (h2 : Good R W T2) :
    Good R W (fun a => T2 (T1 a)) :=
  ⟨fun a x hx => (h2.reads _ x hx).elim (h1.reads a x) .inr,
   fun a x hx => (h2.writes _ x hx).elim (h1.writes a x) .inr,
   fun a x hx => (h2.frame _ x hx).trans (h1.frame a x hx),
   fun S a b hR hW h => h2.agree S _ _ hR hW (h1.agree S a b hR hW h)⟩

theorem Good.mono {R W R' W' : List Name} {T : Acc → Acc} (h : Good R W T)
    (hR : ∀ x ∈ R, x ∈ R') (hW : ∀ x ∈ W, x ∈ W') : Good R' W' T :=
  ⟨fun a x hx => (h.reads a x hx).imp_right (hR x),
   fun a x hx => (h.writes a x hx).imp_right (hW x),
   fun a x hx => h.frame a x fun h' => hx (hW x h'),
   fun S a b h1 h2 => h.agree S a b (fun x hx => h1 x (hR x hx)) fun x hx => h2 x (hW x hx)⟩

theorem Good.congr {R W : List Name} {T T' : Acc → Acc} (h : Good R W T') (e : ∀ a, T a = T' a) : Good R W T :=
  funext e ▸ h

theorem Good.σ_congr {R W : List Name} {T : Acc → Acc} (h : Good R W T) {a b : Acc} (hσ : a.σ = b.σ) :
    (T a).σ = (T b).σ :=
  funext fun x => h.agree (x :: (R ++ W)) a b (fun y hy => by simp [hy]) (fun y hy => by simp [hy])
    (fun y _ => by rw [hσ]) x List.mem_cons_self

/-- sequencing with a value computed from the cells of `R`: the interpreter's guard, its test of the
    step's status and the loop bounds are instances -/
theorem Good.bind {R W : List Name} {α : Type} (g : Acc → α) (T : α → Acc → Acc)
    (hg : ∀ a b, AgreeOn R a.σ b.σ → g a = g b) (hT : ∀ a, Good R W (T (g a))) :
    Good R W (fun a => T (g a) a) :=
  ⟨fun a => (hT a).reads a, fun a => (hT a).writes a, fun a => (hT a).frame a,
    fun S a b hR hW h => hg a b (h.mono hR) ▸ (hT a).agree S a b hR hW h⟩

theorem read_good (R W : List Name) (f : Acc → List Name) (hf : ∀ a, ∀ x ∈ f a, x ∈ R) :
    Good R W (fun a => a.read (f a)) :=
  ⟨fun a x hx => (List.mem_append.1 hx).imp_right (hf a x), fun _ _ hx => .inl hx, fun _ _ _ => rfl,
    fun _ _ _ _ _ h => h⟩

theorem put_good {R W : List Name} {x : Name} (hx : x ∈ W) (c : Acc → Cell)
    (hc : ∀ a b, AgreeOn R a.σ b.σ → c a = c b) :
    Good R W (fun a => { a with σ := a.σ.set x (c a), writes := a.writes ++ [x] }) := by
  refine ⟨fun _ _ h => .inl h, fun a y hy => ?_, fun a y hy => ?_, fun S a b hR _ h y hy => ?_⟩
  · rcases List.mem_append.1 hy with h | h
    · exact .inl h
    · rw [List.mem_singleton.1 h]; exact .inr hx
  · have : y ≠ x := fun h => hy (h ▸ hx)
    simp only [Store.set, this, if_false]
  · simp only [Store.set, hc a b (h.mono hR)]
    split
    · rfl
    · exact h y hy

theorem write_good {R W : List Name} {x : Name} (hx : x ∈ W) (v : Acc → Val)
    (hv : ∀ a b, AgreeOn R a.σ b.σ → v a = v b) : Good R W (fun a => a.write x (v a)) :=
  put_good hx (fun a => .val (v a)) fun a b h => congrArg Cell.val (hv a b h)

theorem setExec_good {R W : List Name} (hx : EXEC ∈ W) (log : Acc → List Event) (st : Status)
    (hl : ∀ a b, AgreeOn R a.σ b.σ → log a = log b) : Good R W (fun a => setExec a (log a) st) :=
  put_good hx (fun a => .exec (log a) st) fun a b h => congrArg (Cell.exec · st) (hl a b h)

/-! `evalI_reads` and `evalI_agree` in the form `read_good` and `Good.bind` ask for: relative to a
    set `R` that contains the variables of the expression -/
theorem evalI_readsIn {R : List Name} (F : Funs) (env : List (Name × Int)) {e : Expr}
    (he : ∀ x ∈ depVars e, x ∈ R) (a : Acc) : ∀ x ∈ (evalI F env a.σ e).2, x ∈ R :=
  fun x hx => he x (evalI_reads F env a.σ e x hx)

theorem evalI_agreeOn {R : List Name} (F : Funs) (env : List (Name × Int)) {e : Expr}
    (he : ∀ x ∈ depVars e, x ∈ R) (a b : Acc) (h : AgreeOn R a.σ b.σ) :
    evalI F env a.σ e = evalI F env b.σ e := evalI_agree F env e (h.mono he)

def subVars : Option Expr → List Name
  | some i => depVars i
  | none => []

theorem assignOnce_good (F : Funs) (env : List (Name × Int)) (lhs : Name) (sub : Option Expr) (rhs : Expr) :
    Good (depVars rhs ++ subVars sub ++ [lhs]) [lhs] (assignOnce F env lhs sub rhs) := by
  have hr : ∀ x ∈ depVars rhs, x ∈ depVars rhs ++ subVars sub ++ [lhs] := fun x hx => by simp [hx]
  have hl : lhs ∈ depVars rhs ++ subVars sub ++ [lhs] := by simp
  cases sub with
  | none =>
    exact (read_good _ _ (fun a => (evalI F env a.σ rhs).2) (evalI_readsIn F env hr)).comp
      (write_good List.mem_cons_self (fun a => (evalI F env a.σ rhs).1)
        fun a b h => by rw [evalI_agreeOn F env hr a b h])
  | some i =>
    have hi : ∀ x ∈ depVars i, x ∈ depVars rhs ++ subVars (some i) ++ [lhs] := fun x hx => by simp [subVars, hx]
    exact (read_good _ _ (fun a => (evalI F env a.σ rhs).2 ++ [lhs] ++ (evalI F env a.σ i).2)
        fun a => List.forall_mem_append.2 ⟨List.forall_mem_append.2
          ⟨evalI_readsIn F env hr a, fun x hx => List.mem_singleton.1 hx ▸ hl⟩, evalI_readsIn F env hi a⟩).comp
      (write_good List.mem_cons_self
        (fun a => (a.σ.get lhs).setIndex (evalI F env a.σ i).1 (evalI F env a.σ rhs).1)
        fun a b h => by rw [evalI_agreeOn F env hr a b h, evalI_agreeOn F env hi a b h, h.get hl])

theorem Good.iterate {R W : List Name} {F : Funs} {lhs : Name} {sub : Option Expr} {rhs : Expr}
    {rest : List (Name × Expr × Expr)} {env : List (Name × Int)} {i : Name}
    (body : ∀ k, Good R W (runLoops F lhs sub rhs rest ((i, k) :: env))) :
    ∀ (n : Nat) (k : Int), Good R W (iterate F lhs sub rhs rest env i k n) := by
  intro n
  induction n with
  | zero => exact fun k => (Good.id R W).congr fun a => by rw [Sem.iterate]
  | succ n ih => exact fun k => ((body k).comp (ih (k + 1))).congr fun a => by rw [Sem.iterate]

theorem runLoops_good (F : Funs) (lhs : Name) (sub : Option Expr) (rhs : Expr) :
    ∀ (loops : List (Name × Expr × Expr)) (env : List (Name × Int)),
      Good (depVars rhs ++ subVars sub ++ [lhs] ++ loopVars loops) [lhs] (runLoops F lhs sub rhs loops env) := by
  intro loops
  induction loops with
  | nil =>
    exact fun env => ((assignOnce_good F env lhs sub rhs).mono (fun x hx => List.mem_append_left _ hx)
      fun x hx => hx).congr fun a => by rw [runLoops]
  | cons l rest ih =>
    obtain ⟨i, lo, hi⟩ := l
    intro env
    have hlo : ∀ x ∈ depVars lo, x ∈ depVars rhs ++ subVars sub ++ [lhs] ++ loopVars ((i, lo, hi) :: rest) :=
      fun x hx => by simp [loopVars, hx]
    have hhi : ∀ x ∈ depVars hi, x ∈ depVars rhs ++ subVars sub ++ [lhs] ++ loopVars ((i, lo, hi) :: rest) :=
      fun x hx => by simp [loopVars, hx]
    -- entering the loop: the bounds are read, then the loop runs with the numbers they evaluate to
    refine ((read_good _ _ (fun a => (evalI F env a.σ lo).2 ++ (evalI F env a.σ hi).2)
        fun a => List.forall_mem_append.2 ⟨evalI_readsIn F env hlo a, evalI_readsIn F env hhi a⟩).comp
      (Good.bind (fun a => (evalI F env a.σ lo, evalI F env a.σ hi))
        (fun p => iterate F lhs sub rhs rest env i (intOf p.1.1) ((intOf p.2.1 - intOf p.1.1).toNat))
        (fun a b h => by rw [evalI_agreeOn F env hlo a b h, evalI_agreeOn F env hhi a b h]) fun _ => ?_)).congr
      fun a => by rw [runLoops]; rfl
    exact (Good.iterate (fun k => ih ((i, k) :: env)) _ _).mono
      (fun x hx => by simp only [loopVars, List.mem_append] at hx ⊢; exact hx.imp_right .inr) fun x hx => hx

theorem iterate_good (F : Funs) (lhs : Name) (sub : Option Expr) (rhs : Expr)
    (rest : List (Name × Expr × Expr)) (env : List (Name × Int)) (i : Name) :
    ∀ (n : Nat) (k : Int),
      Good (depVars rhs ++ subVars sub ++ [lhs] ++ loopVars rest) [lhs] (iterate F lhs sub rhs rest env i k n) :=
  Good.iterate fun k => runLoops_good F lhs sub rhs rest ((i, k) :: env)

/-- effective read set of a statement: what it declares as read, what it declares as written (a
    subscripted assignment reads its aggregate; for the other kinds this only makes the set
    larger), and the execution-state token -/
def effR (s : Stmt) : List Name := EXEC :: (declReads s ++ declWrites s)
/-- effective write set: what it declares; non-assignments also write the execution state -/
def effW (s : Stmt) : List Name := declWrites s ++ (bif s.kind.isAssignment then [] else [EXEC])

set_option linter.unusedVariables false in
theorem assignResults_good : ∀ (lhs : List Name) (vs : Acc → List Val) (hv : ∀ S a b, AgreeOn S a.σ b.σ → vs a = vs b → True),
    True := fun _ _ _ => trivial

theorem Good.assignResults {R W : List Name} (lhs : List Name) (vs : List Val) (h : ∀ x ∈ lhs, x ∈ W) :
    Good R W (fun a => assignResults a lhs vs) := by
  induction lhs generalizing vs with
  | nil => exact Good.id R W
  | cons x xs ih =>
    cases vs with
    | nil => exact Good.id R W
    | cons v vs =>
      exact (write_good (h x List.mem_cons_self) (fun _ => v) fun _ _ _ => rfl).comp
        (ih vs fun y hy => h y (List.mem_cons_of_mem _ hy))

def kindT (F : Funs) (k : Kind) (a : Acc) : Acc :=
  match k with
  | .assign lhs sub rhs loops => runLoops F lhs sub rhs loops [] a
  | .callAssign lhs f args kw =>
    let (vs, r1) := evalArgs F [] a.σ args
    let (ks, r2) := evalKw F [] a.σ kw
    assignResults (a.read (r1 ++ r2)) lhs (F f vs ks)
  | .yield e t tid comp =>
    let (vt, r1) := evalI F [] a.σ t
    let (ve, r2) := evalI F [] a.σ e
    setExec (a.read (r1 ++ r2)) (a.σ.log ++ [.stateComputed vt tid comp ve]) .running
  | .raise err => setExec a a.σ.log (.raised err)
  | .fail => setExec a a.σ.log .failed
  | .switch p => setExec a a.σ.log (.switched p)
  | .nop => a

def guardT (F : Funs) (s : Stmt) (a : Acc) : Acc :=
  bif (evalI F [] a.σ s.cond).1.truthy then kindT F s.kind (a.read (evalI F [] a.σ s.cond).2)
  else a.read (evalI F [] a.σ s.cond).2

/-- `execI` as a transformation of the instrumented state (`execI_eq`) -/
def execT (F : Funs) (s : Stmt) (a : Acc) : Acc :=
  match a.σ.status with
  | .running => guardT F s a
  | _ => a

theorem execI_eq (F : Funs) (s : Stmt) (σ : Store) : execI F s σ = execT F s ⟨σ, [EXEC], []⟩ := by
  unfold execI execT guardT kindT
  cases σ.status <;> simp only
  cases (evalI F [] σ s.cond).1.truthy <;> simp only [cond_true, cond_false]
  cases s.kind <;> rfl

theorem declReads_assign (c : Expr) (lhs : Name) (sub : Option Expr) (rhs : Expr) (loops : List (Name × Expr × Expr)) :
    declReads ⟨c, .assign lhs sub rhs loops⟩ = depVars c ++ (depVars rhs ++ subVars sub ++ loopVars loops) := by
  cases sub <;> rfl

theorem log_agreeOn {R : List Name} (hE : EXEC ∈ R) (a b : Acc) (h : AgreeOn R a.σ b.σ) : a.σ.log = b.σ.log := by
  simp only [Store.log, h EXEC hE]

theorem kindT_good (F : Funs) (c : Expr) (k : Kind) : Good (effR ⟨c, k⟩) (effW ⟨c, k⟩) (kindT F k) := by
  have hE : EXEC ∈ effR ⟨c, k⟩ := List.mem_cons_self
  cases k with
  | assign lhs sub rhs loops =>
    refine (runLoops_good F lhs sub rhs loops []).mono (fun x hx => ?_) fun x hx => List.mem_append_left _ hx
    -- `effR` lists the names of `runLoops_good`'s read set (`declReads_assign`), grouped differently
    simp only [effR, declReads_assign, declWrites, List.mem_cons, List.mem_append, List.not_mem_nil, or_false] at hx ⊢
    grind
  | callAssign lhs f args kw =>
    have ha : ∀ x ∈ depVarsL args, x ∈ effR ⟨c, .callAssign lhs f args kw⟩ := fun x hx => by simp [effR, declReads, hx]
    have hk : ∀ x ∈ depVarsK kw, x ∈ effR ⟨c, .callAssign lhs f args kw⟩ := fun x hx => by simp [effR, declReads, hx]
    exact (read_good _ _ (fun a => (evalArgs F [] a.σ args).2 ++ (evalKw F [] a.σ kw).2)
        fun a => List.forall_mem_append.2 ⟨fun x hx => ha x (evalArgs_reads F [] a.σ args x hx),
          fun x hx => hk x (evalKw_reads F [] a.σ kw x hx)⟩).comp
      (Good.bind (fun a => F f (evalArgs F [] a.σ args).1 (evalKw F [] a.σ kw).1) (fun vs a => assignResults a lhs vs)
        (fun a b h => by rw [evalArgs_agree F [] args (h.mono ha), evalKw_agree F [] kw (h.mono hk)])
        fun _ => Good.assignResults lhs _ fun x hx => List.mem_append_left _ hx)
  | yield e t tid comp =>
    have he : ∀ x ∈ depVars e, x ∈ effR ⟨c, .yield e t tid comp⟩ := fun x hx => by simp [effR, declReads, hx]
    have ht : ∀ x ∈ depVars t, x ∈ effR ⟨c, .yield e t tid comp⟩ := fun x hx => by simp [effR, declReads, hx]
    exact (read_good _ (effW ⟨c, .yield e t tid comp⟩) (fun a => (evalI F [] a.σ t).2 ++ (evalI F [] a.σ e).2)
        fun a => List.forall_mem_append.2 ⟨evalI_readsIn F [] ht a, evalI_readsIn F [] he a⟩).comp
      (setExec_good (List.mem_append_right _ List.mem_cons_self)
        (fun a => a.σ.log ++ [.stateComputed (evalI F [] a.σ t).1 tid comp (evalI F [] a.σ e).1]) .running
        fun a b h => by rw [evalI_agreeOn F [] ht a b h, evalI_agreeOn F [] he a b h, log_agreeOn hE a b h])
  | raise err | fail | switch p =>
    exact setExec_good (List.mem_append_right _ List.mem_cons_self) (fun a => a.σ.log) _ (log_agreeOn hE)
  | nop => exact Good.id _ _

theorem guardT_good (F : Funs) (s : Stmt) : Good (effR s) (effW s) (guardT F s) := by
  have hc : ∀ x ∈ depVars s.cond, x ∈ effR s := fun x hx => by simp [effR, declReads, hx]
  refine (read_good _ _ (fun a => (evalI F [] a.σ s.cond).2) (evalI_readsIn F [] hc)).comp
    (Good.bind (fun a => (evalI F [] a.σ s.cond).1.truthy) (fun g a => bif g then kindT F s.kind a else a)
      (fun a b h => by rw [evalI_agreeOn F [] hc a b h]) fun a => ?_)
  cases (evalI F [] a.σ s.cond).1.truthy
  · exact Good.id _ _
  · exact kindT_good F s.cond s.kind

/-- C08 and the frame conditions C02 needs, for one statement -/
theorem execT_good (F : Funs) (s : Stmt) : Good (effR s) (effW s) (execT F s) := by
  refine Good.bind (fun a => a.σ.status) (fun st a => match st with
      | .running => guardT F s a
      | _ => a)
    (fun a b h => by simp only [Store.status, h EXEC List.mem_cons_self]) fun a => ?_
  cases a.σ.status
  · exact guardT_good F s
  all_goals exact Good.id _ _

theorem execI_reads (F : Funs) (s : Stmt) (σ : Store) : ∀ x ∈ (execI F s σ).reads, x ∈ effR s := by
  intro x hx
  rw [execI_eq] at hx
  rcases (execT_good F s).reads _ x hx with h | h
  · exact List.mem_singleton.1 h ▸ List.mem_cons_self
  · exact h

theorem execI_writes (F : Funs) (s : Stmt) (σ : Store) : ∀ x ∈ (execI F s σ).writes, x ∈ effW s := by
  intro x hx
  rw [execI_eq] at hx
  exact ((execT_good F s).writes _ x hx).resolve_left List.not_mem_nil

theorem exec_frame (F : Funs) (s : Stmt) (σ : Store) {x : Name} (hx : x ∉ effW s) : exec F s σ x = σ x := by
  rw [exec, execI_eq]; exact (execT_good F s).frame _ x hx

theorem exec_agree (F : Funs) (s : Stmt) {S : List Name} (hR : ∀ x ∈ effR s, x ∈ S) (hW : ∀ x ∈ effW s, x ∈ S)
    {σ σ' : Store} (h : AgreeOn S σ σ') : AgreeOn S (exec F s σ) (exec F s σ') := by
  rw [exec, exec, execI_eq, execI_eq]; exact (execT_good F s).agree S _ _ hR hW h

theorem exec_not_running (F : Funs) (s : Stmt) (σ : Store) (hr : σ.status ≠ .running) : exec F s σ = σ := by
  rw [exec, execI_eq, execT]
  cases h : σ.status with
  | running => exact absurd h hr
  | _ => rfl

theorem exec_guarded (F : Funs) (c : Expr) (k : Kind) (σ : Store) :
    exec F ⟨c, k⟩ σ = bif (eval F [] σ c).truthy then exec F ⟨.const (.bool true), k⟩ σ else σ := by
  cases h : σ.status with
  | running =>
    have ht : (evalI F [] σ (.const (.bool true))).1.truthy = true := rfl
    simp only [exec, execI_eq, execT, guardT, eval, h, ht, cond_true]
    cases (evalI F [] σ c).1.truthy
    · rfl
    · exact (kindT_good F c k).σ_congr rfl
  | _ =>
    have hr : σ.status ≠ .running := by rw [h]; exact nofun
    rw [exec_not_running F _ σ hr, exec_not_running F _ σ hr, Bool.cond_self]

theorem exec_assign_plain (F : Funs) (x : Name) (e : Expr) (σ : Store) (hr : σ.status = .running) :
    exec F ⟨.const (.bool true), .assign x none e []⟩ σ = σ.set x (.val (eval F [] σ e)) := by
  have ht : (evalI F [] σ (.const (.bool true))).1.truthy = true := rfl
  simp only [exec, execI_eq, execT, guardT, kindT, hr, ht, cond_true, runLoops, assignOnce, Acc.read, Acc.write, eval]

end Dagrt.Sem
