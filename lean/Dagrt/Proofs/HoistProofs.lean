import Dagrt.Proofs.EvalZ
import Dagrt.Proofs.StrLemmas
/-! Constant hoisting (`Model/Hoist.lean`): the invariant `Good` of the hoisting state and its proof
    for the whole traversal. -/
namespace Dagrt.Hoist
open Dagrt Dagrt.Match

def NotH (x : Name) : Prop := ∀ k, x ≠ hname k
def NoH (e : Expr) : Prop := ∀ x ∈ vars e, NotH x
def NoHL (cs : List Expr) : Prop := ∀ x ∈ varsL cs, NotH x
def NoHK (cs : List (Name × Expr)) : Prop := ∀ x ∈ varsK cs, NotH x

theorem hname_inj {a b : Nat} (h : hname a = hname b) : a = b := by
  have := congrArg String.toList h
  simp only [hname, String.toList_append, Str.toString_toList] at this
  exact Str.toDigits_inj (List.append_cancel_left this)

theorem nodup_hnames (a n : Nat) : ((List.range' a n).map hname).Nodup :=
  List.pairwise_map.mpr (List.Pairwise.imp (fun hab heq => hab (hname_inj heq)) List.nodup_range')

/-- a transformation of the hoisting state from `s` to `s'`: it appends assignments whose
    left-hand sides are exactly `h_{s.next} … h_{s'.next-1}` and whose right-hand sides are closed
    (`isConst`) original expressions; `claim ρ₂` holds for every environment `ρ₂` that equals `ρ`
    off the `h` names and gives each new variable the value of its right-hand side -/
def Good (free : List Name) (ρ : Env) (F : FunI) (s s' : HS) (claim : Env → Prop) : Prop :=
  ∃ new, s'.assigns = s.assigns ++ new ∧ s.next ≤ s'.next ∧
    new.map (·.1) = (List.range' s.next (s'.next - s.next)).map hname ∧
    (∀ p ∈ new, isConst free p.2 = true ∧ NoH p.2) ∧
    (∀ ρ₂ : Env, (∀ x, NotH x → ρ₂ x = ρ x) → (∀ p ∈ new, ρ₂ p.1 = evalZ ρ F p.2) → claim ρ₂)

theorem Good.refl (free : List Name) (ρ : Env) (F : FunI) (s : HS) (claim : Env → Prop)
    (h : ∀ ρ₂ : Env, (∀ x, NotH x → ρ₂ x = ρ x) → claim ρ₂) : Good free ρ F s s claim :=
  ⟨[], by simp, Nat.le_refl _, by simp, by simp, fun ρ₂ h1 _ => h ρ₂ h1⟩

theorem Good.weaken {free : List Name} {ρ : Env} {F : FunI} {s s' : HS} {c c' : Env → Prop}
    (h : Good free ρ F s s' c) (hw : ∀ ρ₂ : Env, (∀ x, NotH x → ρ₂ x = ρ x) → c ρ₂ → c' ρ₂) :
    Good free ρ F s s' c' := by
  obtain ⟨new, h1, h2, h3, h4, h5⟩ := h
  exact ⟨new, h1, h2, h3, h4, fun ρ₂ a b => hw ρ₂ a (h5 ρ₂ a b)⟩

theorem Good.comp {free : List Name} {ρ : Env} {F : FunI} {s s1 s2 : HS} {c1 c2 : Env → Prop}
    (h1 : Good free ρ F s s1 c1) (h2 : Good free ρ F s1 s2 c2) :
    Good free ρ F s s2 (fun ρ₂ => c1 ρ₂ ∧ c2 ρ₂) := by
  obtain ⟨n1, a1, a2, a3, a4, a5⟩ := h1
  obtain ⟨n2, b1, b2, b3, b4, b5⟩ := h2
  refine ⟨n1 ++ n2, by rw [b1, a1, List.append_assoc], Nat.le_trans a2 b2, ?_, ?_, ?_⟩
  · rw [List.map_append, a3, b3, ← List.map_append, ← Nat.sub_add_sub_cancel b2 a2, Nat.add_comm,
      ← List.range'_append_1, Nat.add_sub_cancel' a2]
  · intro p hp
    rcases List.mem_append.mp hp with h | h
    · exact a4 p h
    · exact b4 p h
  · intro ρ₂ hag hdef
    exact ⟨a5 ρ₂ hag fun p hp => hdef p (List.mem_append_left _ hp),
      b5 ρ₂ hag fun p hp => hdef p (List.mem_append_right _ hp)⟩

theorem Good.hoist (free : List Name) (ρ : Env) (F : FunI) (s : HS) (e : Expr)
    (hc : isConst free e = true) (hn : NoH e) :
    Good free ρ F s (s.hoist e).2 (fun ρ₂ => evalZ ρ₂ F (s.hoist e).1 = evalZ ρ F e) := by
  refine ⟨[(hname s.next, e)], by simp [HS.hoist], by simp [HS.hoist], ?_, ?_, ?_⟩
  · simp [HS.hoist]
  · intro p hp; simp at hp; subst hp; exact ⟨hc, hn⟩
  · intro ρ₂ _ hdef
    simp only [HS.hoist, evalZ]
    exact hdef (hname s.next, e) (by simp)

theorem evalZ_orig {ρ ρ₂ : Env} {F : FunI} {e : Expr} (hn : NoH e) (hag : ∀ x, NotH x → ρ₂ x = ρ x) :
    evalZ ρ₂ F e = evalZ ρ F e := evalZ_congr ρ ρ₂ F e (fun x hx => hag x (hn x hx))


theorem allConst_iff {free : List Name} {cs : List Expr} : allConst free cs = true ↔ ∀ c ∈ cs, isConst free c = true := by
  induction cs with
  | nil => simp [allConst]
  | cons x xs ih => simp [allConst, ih]

theorem allConstK_iff {free : List Name} {kw : List (Name × Expr)} :
    allConstK free kw = true ↔ ∀ p ∈ kw, isConst free p.2 = true := by
  induction kw with
  | nil => simp [allConstK]
  | cons x xs ih => simp [allConstK, ih]

theorem NoHL_iff {cs : List Expr} : NoHL cs ↔ ∀ c ∈ cs, NoH c := by
  simp only [NoHL, NoH, mem_varsL]
  exact ⟨fun h c hc x hx => h x ⟨c, hc, hx⟩, fun h x ⟨c, hc, hx⟩ => h c hc x hx⟩

/-- the `folded` of `finishCA` -/
def foldK (mk : List Expr → Expr) (ks : List Expr) (s : HS) : Expr × HS :=
  match ks with
  | [k] => bif atomic k then (k, s) else s.hoist k
  | _ => s.hoist (mk ks)

theorem finishCA_cons (mk : List Expr → Expr) (c : Expr) (ks ns : List Expr) (s : HS) :
    finishCA mk (c :: ks) ns s =
      ((match ns with | [] => (foldK mk (c :: ks) s).1 | _ => mk ((foldK mk (c :: ks) s).1 :: ns)),
        (foldK mk (c :: ks) s).2) := by
  cases ks <;> cases ns <;> simp only [finishCA, foldK] <;> cases atomic c <;> rfl

theorem foldK_good (k : AC) (free : List Name) (ρ : Env) (F : FunI) (ks : List Expr) (s : HS)
    (hk : ∀ c ∈ ks, isConst free c = true ∧ NoH c) :
    Good free ρ F s (foldK k.mk ks s).2
      (fun ρ₂ => evalZ ρ₂ F (foldK k.mk ks s).1 = k.foldV (ks.map (evalZ ρ F))) := by
  have hwhole : Good free ρ F s (s.hoist (k.mk ks)).2
      (fun ρ₂ => evalZ ρ₂ F (s.hoist (k.mk ks)).1 = k.foldV (ks.map (evalZ ρ F))) := by
    have := Good.hoist free ρ F s (k.mk ks)
      (by cases k <;> exact allConst_iff.mpr fun c hc => (hk c hc).1)
      (by cases k <;> exact NoHL_iff.mpr fun c hc => (hk c hc).2)
    simpa only [evalZ_mk] using this
  match ks, hk, hwhole with
  | [c], hk, _ =>
    have hc := hk c List.mem_cons_self
    simp only [foldK, List.map, AC.foldV_cons, AC.foldV_nil, k.op_unit]
    cases atomic c with
    | true => exact Good.refl _ _ _ _ _ fun ρ₂ hag => evalZ_orig hc.2 hag
    | false => exact Good.hoist free ρ F s c hc.1 hc.2
  | [], _, h => exact h
  | _ :: _ :: _, _, h => exact h

theorem finishCA_good (k : AC) (free : List Name) (ρ : Env) (F : FunI) (ks ns : List Expr) (s : HS)
    (hk : ∀ c ∈ ks, isConst free c = true ∧ NoH c) :
    Good free ρ F s (finishCA k.mk ks ns s).2 (fun ρ₂ => evalZ ρ₂ F (finishCA k.mk ks ns s).1 =
      k.op (k.foldV (ks.map (evalZ ρ F))) (k.foldV (ns.map (evalZ ρ₂ F)))) := by
  match ks, hk with
  | [], _ =>
    match ns with
    | [n] => exact Good.refl _ _ _ _ _ fun ρ₂ _ => by simp [finishCA, k.unit_op, k.op_unit]
    | [] | _ :: _ :: _ => exact Good.refl _ _ _ _ _ fun ρ₂ _ => by simp [finishCA, evalZ_mk, k.unit_op]
  | c :: ks, hk =>
    rw [finishCA_cons]
    refine (foldK_good k free ρ F (c :: ks) s hk).weaken fun ρ₂ _ h => ?_
    match ns with
    | [] => simp [h, k.op_unit]
    | n :: ns => simp only [evalZ_mk, List.map_cons, AC.foldV_cons, h]

theorem collapseG_hoisted {free : List Name} {top : Bool} {e : Expr} (s : HS)
    (hb : (!top && isConst free e) = true) (ha : atomic e = false) : collapseG free top e s = s.hoist e := by
  cases e <;> simp only [collapseG, hb, cond_true] <;> cases ha

theorem collapseG_atomic (free : List Name) (top : Bool) {e : Expr} (s : HS) (ha : atomic e = true) :
    collapseG free top e s = (e, s) := by
  cases e <;> cases ha <;> rfl

mutual
theorem collapseG_good (free : List Name) (ρ : Env) (F : FunI) : ∀ (top : Bool) (e : Expr) (s : HS), NoH e →
    Good free ρ F s (collapseG free top e s).2 (fun ρ₂ => evalZ ρ₂ F (collapseG free top e s).1 = evalZ ρ F e)
  | top, e, s, hn => by
    cases ha : atomic e with
    | true => rw [collapseG_atomic free top s ha]; exact Good.refl _ _ _ _ _ fun ρ₂ hag => evalZ_orig hn hag
    | false =>
    cases hb : (!top && isConst free e) with
    | true =>
      rw [collapseG_hoisted s hb ha]
      exact Good.hoist free ρ F s e (by simpa using (Bool.and_eq_true_iff.mp hb).2) hn
    | false =>
      cases e with
      | const _ | var _ => cases ha
      | sum cs =>
        simp only [collapseG, hb, cond_false]
        obtain ⟨hks, hgp⟩ := partitionC_spec free ρ F cs s hn
        refine (hgp.comp (finishCA_good .sum free ρ F _ _ _ hks)).weaken fun ρ₂ _ ⟨h1, h2⟩ => ?_
        rw [show Expr.sum = AC.mk .sum from rfl, h2, evalZ_mk]; exact h1 .sum
      | prod cs =>
        simp only [collapseG, hb, cond_false]
        obtain ⟨hks, hgp⟩ := partitionC_spec free ρ F cs s hn
        refine (hgp.comp (finishCA_good .prod free ρ F _ _ _ hks)).weaken fun ρ₂ _ ⟨h1, h2⟩ => ?_
        rw [show Expr.prod = AC.mk .prod from rfl, h2, evalZ_mk]; exact h1 .prod
      | quot a b | pow a b | sub a b | cmp _ a b =>
        simp only [collapseG, hb, cond_false]
        have ⟨ha, hb⟩ := List.forall_mem_append.mp hn
        exact ((collapseG_good free ρ F false a s ha).comp (collapseG_good free ρ F false b _ hb)).weaken
          fun ρ₂ _ ⟨e1, e2⟩ => by simp only [evalZ, e1, e2]
      | attr a _ | lnot a =>
        simp only [collapseG, hb, cond_false]
        exact (collapseG_good free ρ F false a s hn).weaken fun ρ₂ _ e1 => by simp only [evalZ, e1]
      | land cs | lor cs | min cs | max cs =>
        simp only [collapseG, hb, cond_false]
        exact (collapseL_good free ρ F cs s hn).weaken fun ρ₂ _ e1 => by simp only [evalZ, e1]
      | call f args kw =>
        simp only [collapseG, hb, cond_false]
        have ⟨ha, hk⟩ := List.forall_mem_append.mp hn
        exact ((collapseL_good free ρ F args s ha).comp (collapseK_good free ρ F kw _ hk)).weaken
          fun ρ₂ _ ⟨e1, e2⟩ => by simp only [evalZ, e1, e2]
      | ite c t f =>
        simp only [collapseG, hb, cond_false]
        have ⟨hct, hf⟩ := List.forall_mem_append.mp hn
        have ⟨hc, ht⟩ := List.forall_mem_append.mp hct
        exact (((collapseG_good free ρ F false c s hc).comp (collapseG_good free ρ F false t _ ht)).comp
          (collapseG_good free ρ F false f _ hf)).weaken
          fun ρ₂ _ ⟨⟨e1, e2⟩, e3⟩ => by simp only [evalZ, e1, e2, e3]
theorem collapseL_good (free : List Name) (ρ : Env) (F : FunI) : ∀ (cs : List Expr) (s : HS), NoHL cs →
    Good free ρ F s (collapseL free cs s).2 (fun ρ₂ => evalL ρ₂ F (collapseL free cs s).1 = evalL ρ F cs)
  | [], s, _ => by simp only [collapseL]; exact Good.refl _ _ _ _ _ (fun _ _ => rfl)
  | c :: cs, s, hn => by
    simp only [collapseL]
    have ⟨hc, hcs⟩ := List.forall_mem_append.mp hn
    exact ((collapseG_good free ρ F false c s hc).comp (collapseL_good free ρ F cs _ hcs)).weaken
      fun ρ₂ _ ⟨e1, e2⟩ => by simp only [evalL, e1, e2]
theorem collapseK_good (free : List Name) (ρ : Env) (F : FunI) : ∀ (cs : List (Name × Expr)) (s : HS), NoHK cs →
    Good free ρ F s (collapseK free cs s).2 (fun ρ₂ => evalK ρ₂ F (collapseK free cs s).1 = evalK ρ F cs)
  | [], s, _ => by simp only [collapseK]; exact Good.refl _ _ _ _ _ (fun _ _ => rfl)
  | (k, c) :: cs, s, hn => by
    simp only [collapseK]
    have ⟨hc, hcs⟩ := List.forall_mem_append.mp hn
    exact ((collapseG_good free ρ F false c s hc).comp (collapseK_good free ρ F cs _ hcs)).weaken
      fun ρ₂ _ ⟨e1, e2⟩ => by simp only [evalK, e1, e2]
theorem partitionC_spec (free : List Name) (ρ : Env) (F : FunI) : ∀ (cs : List Expr) (s : HS), NoHL cs →
    (∀ k ∈ (partitionC free cs s).1, isConst free k = true ∧ NoH k) ∧
    Good free ρ F s (partitionC free cs s).2.2 (fun ρ₂ => ∀ k : AC,
      k.op (k.foldV ((partitionC free cs s).1.map (evalZ ρ F)))
        (k.foldV ((partitionC free cs s).2.1.map (evalZ ρ₂ F))) = k.foldV (cs.map (evalZ ρ F)))
  | [], s, _ => by
    simp only [partitionC]
    exact ⟨by simp, Good.refl _ _ _ _ _ (fun _ _ k => by simp [k.unit_op])⟩
  | c :: cs, s, hn => by
    have ⟨hnc, hncs⟩ := List.forall_mem_append.mp hn
    simp only [partitionC]
    cases hc : isConst free c with
    | true =>
      simp only [cond_true]
      obtain ⟨hks, hg⟩ := partitionC_spec free ρ F cs s hncs
      refine ⟨?_, hg.weaken (fun ρ₂ _ e1 k => ?_)⟩
      · intro k hk
        rcases List.mem_cons.mp hk with rfl | hk
        · exact ⟨hc, hnc⟩
        · exact hks k hk
      · simp only [List.map_cons, AC.foldV_cons, k.op_assoc]; exact congrArg _ (e1 k)
    | false =>
      simp only [cond_false]
      have h1 := collapseG_good free ρ F false c s hnc
      obtain ⟨hks, hg⟩ := partitionC_spec free ρ F cs _ hncs
      refine ⟨hks, (h1.comp hg).weaken (fun ρ₂ _ ⟨e0, e1⟩ k => ?_)⟩
      simp only [List.map_cons, AC.foldV_cons, e0]
      rw [k.op_swap]; exact congrArg _ (e1 k)
end

theorem partitionC_good (free : List Name) (ρ : Env) (F : FunI) : ∀ (cs : List Expr) (s : HS), NoHL cs →
    (∀ k ∈ (partitionC free cs s).1, isConst free k = true ∧ NoH k) ∧
    Good free ρ F s (partitionC free cs s).2.2 (fun ρ₂ =>
      sumZ ρ F (partitionC free cs s).1 + sumZ ρ₂ F (partitionC free cs s).2.1 = sumZ ρ F cs ∧
      prodZ ρ F (partitionC free cs s).1 * prodZ ρ₂ F (partitionC free cs s).2.1 = prodZ ρ F cs) :=
  fun cs s hn =>
    let ⟨h1, h2⟩ := partitionC_spec free ρ F cs s hn
    ⟨h1, h2.weaken fun ρ₂ _ h =>
      ⟨by rw [sumZ_eq, sumZ_eq, sumZ_eq]; exact h .sum, by rw [prodZ_eq, prodZ_eq, prodZ_eq]; exact h .prod⟩⟩

end Dagrt.Hoist
