import Dagrt.Proofs.Unify
import Dagrt.Proofs.InferProofs
/-!
C09 / C14: what the work-list loop of `SymbolKindFinder.__call__` (`sweep` / `outer`) returns is a
post-fix-point of every statement's rule — except where `SymbolKindTable.set` printed and ignored a
failed unification (the recorded known finding).

The argument: the `changed` flag is only ever raised inside a sweep; the loop returns the table of
a sweep that left it down; so in that sweep every `set` was a no-op, every statement was processed
(retried until it could be inferred) on the very table that is returned, and each no-op `set`
means: the entry exists and the new kind is equal to it, unifies into it, or fails to unify.
-/
namespace Dagrt.Kinds
open Dagrt

/-- why `set` was a no-op: the entry is the kind, or absorbs it by unification, or the unification failed
    and `set` printed and ignored that (the third disjunct is the known finding, not an absorption) -/
def Absorbed (t : Table) (ph n : Name) (k : Kind) : Prop :=
  ∃ old, t.get ph n = some old ∧ (old = k ∨ unifyK k old = .ok old ∨ ∃ e, unifyK k old = .error e)

theorem set_cases (t : Table) (ph n : Name) (k : Kind) :
    (t.set ph n k = t ∧ Absorbed t ph n k) ∨
    ∃ v, t.set ph n k = { entries := updateE t.entries (scope ph n, n) v, changed := true } ∧
      ((lookupE t.entries (scope ph n, n) = none ∧ v = k) ∨
        ∃ old, lookupE t.entries (scope ph n, n) = some old ∧ unifyK k old = .ok v ∧ old ≠ v) := by
  unfold Table.set Absorbed Table.get
  simp only
  cases hold : lookupE t.entries (scope ph n, n) with
  | none => exact .inr ⟨k, rfl, .inl ⟨rfl, rfl⟩⟩
  | some old =>
    simp only
    split
    · exact .inl ⟨rfl, old, rfl, .inl ‹_›⟩
    · cases hu : unifyK k old with
      | error e => exact .inl ⟨rfl, old, rfl, .inr (.inr ⟨e, hu⟩)⟩
      | ok k' =>
        simp only
        split
        · rename_i h; exact .inl ⟨rfl, old, rfl, .inr (.inl (h ▸ hu))⟩
        · exact .inr ⟨k', rfl, .inr ⟨old, rfl, hu, ‹_›⟩⟩

theorem set_changed_mono (t : Table) (ph n : Name) (k : Kind) (h : t.changed = true) :
    (t.set ph n k).changed = true := by
  rcases set_cases t ph n k with ⟨e, _⟩ | ⟨v, e, _⟩ <;> rw [e]
  exact h

theorem set_unchanged (t : Table) (ph n : Name) (k : Kind) (h : (t.set ph n k).changed = false) :
    t.set ph n k = t ∧ Absorbed t ph n k := by
  rcases set_cases t ph n k with h1 | ⟨v, e, _⟩
  · exact h1
  · rw [e] at h; cases h

def Outcome.table? : Outcome → Option Table
  | .done t => some t
  | .skipped t => some t
  | .retry t => some t
  | .fail _ => none

/-- The ways `processStmt` yields a table — the one place it is unfolded.  An assignment sets its loop
    variables and then either stops there (subscripted assignee, or `retry`) or sets the inferred kind; a call
    statement is retried on `t` or sets the result kinds. -/
theorem processStmt_table {reg : Registry} {t : Table} {ph : Name} {s : KStmt} {t' : Table}
    (h : (processStmt reg t ph s).table? = some t') :
    match s with
    | .assign lhs hasSub _ flat loops =>
      (t' = setLoops t ph loops ∧ (hasSub = true ∨ processStmt reg t ph s = .retry t')) ∨
      ∃ k, hasSub = false ∧ infer false reg (setLoops t ph loops) ph flat = .ok k ∧
        t' = (setLoops t ph loops).set ph lhs k
    | .callAssign lhs f args kw =>
      (t' = t ∧ processStmt reg t ph s = .retry t') ∨
      ∃ ks, inferCall false reg t ph f args kw = .ok ks ∧ t' = setZip t ph lhs ks
    | .other => t' = t := by
  cases s with
  | assign lhs hasSub rhs flat loops =>
    simp only [processStmt] at h ⊢
    cases hasSub with
    | true => cases h; exact .inl ⟨rfl, .inl rfl⟩
    | false =>
      simp only [cond_false] at h ⊢
      split at h <;> cases h
      · exact .inl ⟨rfl, .inr rfl⟩
      · exact .inr ⟨_, trivial, ‹_›, rfl⟩
  | callAssign lhs f args kw =>
    simp only [processStmt] at h ⊢
    split at h <;> cases h
    · exact .inl ⟨rfl, rfl⟩
    · exact .inr ⟨_, ‹_›, rfl⟩
  | other => cases h; rfl

section
variable {ph : Name} {P : Table → Prop} (hset : ∀ t n k, P t → P (t.set ph n k))
include hset

theorem setLoops_inv : ∀ (is : List Name) (t : Table), P t → P (setLoops t ph is)
  | [], _, h => h
  | i :: is, t, h => setLoops_inv is _ (hset t i .integer h)

theorem setZip_inv (ns : List Name) (ks : List Kind) (t : Table) (h : P t) : P (setZip t ph ns ks) := by
  fun_induction setZip t ph ns ks with
  | case1 _ n _ k _ ih => exact ih (hset _ n k h)
  | case2 => exact h

theorem processStmt_inv (reg : Registry) (t : Table) (s : KStmt) (t' : Table) (h : P t)
    (ht : (processStmt reg t ph s).table? = some t') : P t' := by
  cases s with
  | assign lhs hasSub rhs flat loops =>
    have hl := setLoops_inv hset loops t h
    rcases processStmt_table ht with ⟨rfl, _⟩ | ⟨k, _, _, rfl⟩
    · exact hl
    · exact hset _ _ _ hl
  | callAssign lhs f args kw =>
    rcases processStmt_table ht with ⟨rfl, _⟩ | ⟨ks, _, rfl⟩
    · exact h
    · exact setZip_inv hset _ _ t h
  | other => cases processStmt_table ht; exact h
end

theorem processStmt_changed_mono (reg : Registry) (t : Table) (ph : Name) (s : KStmt) (t' : Table)
    (h : (processStmt reg t ph s).table? = some t') (hc : t.changed = true) : t'.changed = true :=
  processStmt_inv (fun t n k => set_changed_mono t ph n k) reg t s t' hc h

theorem setLoops_unchanged (ph : Name) : ∀ (is : List Name) (t : Table), (setLoops t ph is).changed = false →
    setLoops t ph is = t ∧ ∀ i ∈ is, Absorbed t ph i .integer := by
  intro is
  induction is with
  | nil => exact fun t _ => ⟨rfl, nofun⟩
  | cons i is ih =>
    intro t h
    simp only [setLoops] at h ⊢
    have h1 : (t.set ph i .integer).changed = false := by
      cases hc : (t.set ph i .integer).changed with
      | false => rfl
      | true => rw [setLoops_inv (fun t n k => set_changed_mono t ph n k) is _ hc] at h; cases h
    obtain ⟨e1, a1⟩ := set_unchanged t ph i .integer h1
    rw [e1] at h ⊢
    obtain ⟨e2, a2⟩ := ih t h
    exact ⟨e2, List.forall_mem_cons.2 ⟨a1, a2⟩⟩

/-- the names and kinds `setZip` pairs up -/
def zipNK : List Name → List Kind → List (Name × Kind)
  | n :: ns, k :: ks => (n, k) :: zipNK ns ks
  | _, _ => []

theorem setZip_unchanged (ph : Name) : ∀ (ns : List Name) (ks : List Kind) (t : Table),
    (setZip t ph ns ks).changed = false →
    setZip t ph ns ks = t ∧ ∀ p ∈ zipNK ns ks, Absorbed t ph p.1 p.2
  | [], _, t, h => ⟨by simp [setZip], by simp [zipNK]⟩
  | _ :: _, [], t, h => ⟨by simp [setZip], by simp [zipNK]⟩
  | n :: ns, k :: ks, t, h => by
    simp only [setZip] at h ⊢
    have h1 : (t.set ph n k).changed = false := by
      cases hc : (t.set ph n k).changed with
      | false => rfl
      | true => rw [setZip_inv (fun t n k => set_changed_mono t ph n k) ns ks _ hc] at h; cases h
    obtain ⟨e1, a1⟩ := set_unchanged t ph n k h1
    rw [e1] at h ⊢
    obtain ⟨e2, a2⟩ := setZip_unchanged ph ns ks t h
    exact ⟨e2, List.forall_mem_cons.2 ⟨a1, a2⟩⟩

/-- the table is a post-fix-point of the rule of statement `s` (in phase `ph`), up to ignored
    unification failures -/
def StmtFix (reg : Registry) (t : Table) (ph : Name) : KStmt → Prop
  | .assign lhs hasSub _ flat loops =>
    (∀ i ∈ loops, Absorbed t ph i .integer) ∧
    (hasSub = false → ∃ k, infer false reg t ph flat = .ok k ∧ Absorbed t ph lhs k)
  | .callAssign lhs f args kw =>
    ∃ ks, inferCall false reg t ph f args kw = .ok ks ∧ ∀ p ∈ zipNK lhs ks, Absorbed t ph p.1 p.2
  | .other => True

theorem processStmt_unchanged (reg : Registry) (t : Table) (ph : Name) (s : KStmt) (t' : Table)
    (h : (processStmt reg t ph s).table? = some t') (hc : t'.changed = false) :
    t' = t ∧ ((∀ t'', processStmt reg t ph s ≠ .retry t'') → StmtFix reg t ph s) := by
  cases s with
  | assign lhs hasSub rhs flat loops =>
    rcases processStmt_table h with ⟨rfl, hr⟩ | ⟨k, rfl, hi, rfl⟩
    · obtain ⟨e, a⟩ := setLoops_unchanged ph loops t hc
      refine ⟨e, fun hne => ⟨a, ?_⟩⟩
      rcases hr with rfl | hr
      · nofun
      · exact absurd hr (hne _)
    · -- the flag is down after the last `set`, so it was down before it
      have hl : (setLoops t ph loops).changed = false :=
        Bool.eq_false_iff.mpr fun hcl => by rw [set_changed_mono _ _ _ _ hcl] at hc; cases hc
      obtain ⟨e, a⟩ := setLoops_unchanged ph loops t hl
      obtain ⟨e2, a2⟩ := set_unchanged _ ph lhs k hc
      rw [e] at hi a2 e2 ⊢
      exact ⟨e2, fun _ => ⟨a, fun _ => ⟨k, hi, a2⟩⟩⟩
  | callAssign lhs f args kw =>
    rcases processStmt_table h with ⟨rfl, hr⟩ | ⟨ks, hi, rfl⟩
    · exact ⟨rfl, fun hne => absurd hr (hne _)⟩
    · obtain ⟨e, a⟩ := setZip_unchanged ph lhs ks t hc
      exact ⟨e, fun _ => ⟨ks, hi, a⟩⟩
  | other => exact ⟨processStmt_table h, fun _ => trivial⟩

theorem eq_of_reverse_eq_cons {α : Type} {q r : List α} {x : α} (h : q.reverse = x :: r) :
    q = r.reverse ++ [x] := by
  simpa using congrArg List.reverse h

theorem mem_snoc_append {α : Type} {p x : α} {r b : List α} : p ∈ r ++ [x] ++ b ↔ p = x ∨ p ∈ r ++ b := by
  simp only [List.mem_append, List.mem_singleton]; grind

theorem mem_append_snoc {α : Type} {p x : α} {r b : List α} : p ∈ r ++ (b ++ [x]) ↔ p = x ∨ p ∈ r ++ b := by
  simp only [List.mem_append, List.mem_singleton]; grind

/-- `processStmt` took the statement off the work list -/
def Settled (reg : Registry) (t : Table) (p : Name × KStmt) (t' : Table) : Prop :=
  processStmt reg t p.1 p.2 = .done t' ∨ processStmt reg t p.1 p.2 = .skipped t'

/-- What a sweep is, for the proofs: the table it returns is reached from the one it started on by
    `processStmt` steps on statements of its work list (`R` is any reflexive transitive relation these
    steps are in), and every statement of the work list is settled by one of these steps. -/
theorem sweep_chain (reg : Registry) (R : Table → Table → Prop) (hrefl : ∀ t, R t t)
    (htrans : ∀ {a b c}, R a b → R b c → R a c)
    (fuel : Nat) (t : Table) (queue buffer : List (Name × KStmt)) (progress : Bool) (tf : Table)
    (hstep : ∀ p ∈ queue ++ buffer, ∀ t t', (processStmt reg t p.1 p.2).table? = some t' → R t t')
    (h : sweep reg fuel t queue buffer progress = .ok tf) :
    R t tf ∧ ∀ p ∈ queue ++ buffer, ∃ t₁ t₂, R t t₁ ∧ Settled reg t₁ p t₂ ∧ R t₂ tf := by
  fun_induction sweep reg fuel t queue buffer progress with
  -- case1: no fuel; case4: buffer left, no progress; case8: the statement failed
  | case1 | case4 | case8 => cases h
  -- case2: queue and buffer empty
  | case2 _ _ _ _ hq => cases h; cases List.reverse_eq_nil_iff.mp hq; exact ⟨hrefl _, fun _ hp => nomatch hp⟩
  -- case3: queue empty, progress made: the buffer becomes the queue
  | case3 _ _ _ buffer hq _ ih =>
    cases List.reverse_eq_nil_iff.mp hq
    rw [List.append_nil] at ih
    exact ih hstep h
  -- case5 / case6: the last statement of the queue is done / skipped
  | case5 _ t _ buffer _ ph s rest hrev t' ho ih | case6 _ t _ buffer _ ph s rest hrev t' ho ih =>
    cases eq_of_reverse_eq_cons hrev
    have h1 : R t t' := hstep _ (mem_snoc_append.mpr (.inl rfl)) t t' (by rw [ho]; rfl)
    obtain ⟨h2, h3⟩ := ih (fun p hp => hstep p (mem_snoc_append.mpr (.inr hp))) h
    refine ⟨htrans h1 h2, fun p hp => ?_⟩
    rcases mem_snoc_append.mp hp with rfl | hp
    · exact ⟨t, t', hrefl t, by simp [Settled, ho], h2⟩
    · obtain ⟨t₁, t₂, a, b, c⟩ := h3 p hp
      exact ⟨t₁, t₂, htrans h1 a, b, c⟩
  -- case7: deferred (`retry`): the statement is still in the work list of the rest of the sweep
  | case7 _ t _ buffer _ ph s rest hrev t' ho ih =>
    cases eq_of_reverse_eq_cons hrev
    have h1 : R t t' := hstep _ (mem_snoc_append.mpr (.inl rfl)) t t' (by rw [ho]; rfl)
    obtain ⟨h2, h3⟩ := ih (fun p hp => hstep p (mem_snoc_append.mpr (mem_append_snoc.mp hp))) h
    refine ⟨htrans h1 h2, fun p hp => ?_⟩
    obtain ⟨t₁, t₂, a, b, c⟩ := h3 p (mem_append_snoc.mpr (mem_snoc_append.mp hp))
    exact ⟨t₁, t₂, htrans h1 a, b, c⟩

theorem sweep_inv (reg : Registry) (P : Table → Prop) (fuel : Nat) (t : Table) (queue buffer : List (Name × KStmt))
    (progress : Bool) (tf : Table)
    (hstep : ∀ p ∈ queue ++ buffer, ∀ t t', P t → (processStmt reg t p.1 p.2).table? = some t' → P t')
    (hP : P t) (h : sweep reg fuel t queue buffer progress = .ok tf) : P tf :=
  (sweep_chain reg (fun a b => P a → P b) (fun _ h => h) (fun h1 h2 h => h2 (h1 h)) fuel t queue buffer progress tf
    (fun p hp t t' ht hP => hstep p hp t t' hP ht) h).1 hP

theorem sweep_unchanged (reg : Registry) (fuel : Nat) (t : Table) (queue buffer : List (Name × KStmt))
    (progress : Bool) (tf : Table) (h : sweep reg fuel t queue buffer progress = .ok tf) (hc : tf.changed = false) :
    tf = t ∧ ∀ p ∈ queue ++ buffer, StmtFix reg t p.1 p.2 := by
  -- `R a b`: if the flag is down at `b`, nothing has happened since `a`
  obtain ⟨h1, h2⟩ := sweep_chain reg (fun a b => b.changed = false → b = a) (fun _ _ => rfl)
    (fun hab hbc hc => by cases hbc hc; exact hab hc) fuel t queue buffer progress tf
    (fun p _ t t' ht hc => (processStmt_unchanged reg t p.1 p.2 t' ht hc).1) h
  refine ⟨h1 hc, fun p hp => ?_⟩
  obtain ⟨t₁, t₂, a, b, c⟩ := h2 p hp
  cases c hc
  have ht : (processStmt reg t₁ p.1 p.2).table? = some tf := by rcases b with b | b <;> simp [b, Outcome.table?]
  obtain ⟨e, fx⟩ := processStmt_unchanged reg t₁ p.1 p.2 tf ht hc
  cases e
  cases a hc
  exact fx (fun t'' hr => by rcases b with b | b <;> simp [b] at hr)

theorem outer_inv (reg : Registry) (prog : List (Name × KStmt)) (P : Table → Prop)
    (hflag : ∀ t c, P t → P { t with changed := c })
    (hstep : ∀ p ∈ prog, ∀ t t', P t → (processStmt reg t p.1 p.2).table? = some t' → P t')
    (fuel : Nat) (t tf : Table) (hP : P t) (h : outer reg prog fuel t = .ok tf) : P tf := by
  fun_induction outer reg prog fuel t with
  | case1 | case2 => cases h
  | case3 _ t t' hs _ ih =>
    exact ih (sweep_inv reg P _ _ _ _ _ _ (fun p hp => hstep p (List.append_nil prog ▸ hp)) (hflag t false hP) hs) h
  | case4 _ t t' hs _ =>
    cases h
    exact sweep_inv reg P _ _ _ _ _ _ (fun p hp => hstep p (List.append_nil prog ▸ hp)) (hflag t false hP) hs

theorem outer_last (reg : Registry) (prog : List (Name × KStmt)) (fuel : Nat) (t tf : Table)
    (h : outer reg prog fuel t = .ok tf) :
    tf.changed = false ∧
      ∃ t₀ : Table, sweep reg (sweepFuel prog.length) { t₀ with changed := false } prog [] false = .ok tf := by
  fun_induction outer reg prog fuel t with
  | case1 | case2 => cases h
  | case3 _ _ _ _ _ ih => exact ih h
  | case4 _ t _ hs hc => cases h; exact ⟨hc, t, hs⟩

theorem inferAll_ok {reg : Registry} {prog : List (Name × KStmt)} {t : Table} (h : inferAll reg prog = .ok t) :
    outer reg prog (4 * countNames prog + 4) Table.init = .ok t ∧ finalCheck reg t prog = .ok () := by
  unfold inferAll at h
  obtain ⟨t', ho, h⟩ := bind_eq_ok h
  obtain ⟨_, hf, h⟩ := bind_eq_ok h
  cases h
  exact ⟨ho, hf⟩

theorem inferAll_inv (reg : Registry) (prog : List (Name × KStmt)) (P : Table → Prop)
    (hflag : ∀ t c, P t → P { t with changed := c }) (hinit : P Table.init)
    (hstep : ∀ p ∈ prog, ∀ t t', P t → (processStmt reg t p.1 p.2).table? = some t' → P t')
    (t : Table) (h : inferAll reg prog = .ok t) : P t :=
  outer_inv reg prog P hflag hstep _ _ _ hinit (inferAll_ok h).1

theorem inferAll_postfix (reg : Registry) (prog : List (Name × KStmt)) (t : Table)
    (h : inferAll reg prog = .ok t) : ∀ p ∈ prog, StmtFix reg t p.1 p.2 := by
  obtain ⟨hc, t₀, hs⟩ := outer_last reg prog _ _ _ (inferAll_ok h).1
  obtain ⟨e, fx⟩ := sweep_unchanged reg _ _ _ _ _ _ hs hc
  exact fun p hp => e ▸ fx p (List.mem_append_left _ hp)

/-! ### where entries live: state variables in the global table, everything else per phase -/

theorem lookupE_updateE (es : List ((Name × Name) × Kind)) (key key' : Name × Name) (v : Kind) :
    lookupE (updateE es key v) key' = if key = key' then some v else lookupE es key' := by
  induction es with
  | nil => simp [updateE, lookupE]
  | cons p r ih =>
    obtain ⟨k0, v0⟩ := p
    simp only [updateE]
    by_cases h0 : k0 = key
    · subst h0
      simp only [if_true, lookupE]
      split <;> rfl
    · simp only [h0, if_false, lookupE, ih]
      by_cases h1 : key = key'
      · subst h1; simp [h0]
      · simp [h1]

/-- every entry sits where `scope` puts it -/
def WellScoped (t : Table) : Prop :=
  ∀ s n k, lookupE t.entries (s, n) = some k → (s = "" ↔ isState n = true)

theorem wellScoped_init : WellScoped Table.init := by
  intro s n k h
  simp only [Table.init, lookupE] at h
  split at h
  · rename_i heq; cases heq; simp; decide +kernel
  · split at h
    · rename_i heq; cases heq; simp; decide +kernel
    · cases h

theorem scope_eq_empty_iff (ph n : Name) (hph : ph ≠ "") : (scope ph n = "" ↔ isState n = true) := by
  unfold scope
  cases isState n <;> simp [hph]

theorem set_wellScoped (t : Table) (ph n : Name) (k : Kind) (hph : ph ≠ "") (h : WellScoped t) :
    WellScoped (t.set ph n k) := by
  have hupd : ∀ v, WellScoped { entries := updateE t.entries (scope ph n, n) v, changed := true } := by
    intro v s m kk hl
    simp only [lookupE_updateE] at hl
    split at hl
    · rename_i heq; cases heq; exact scope_eq_empty_iff ph n hph
    · exact h s m kk hl
  rcases set_cases t ph n k with ⟨e, _⟩ | ⟨v, e, _⟩ <;> rw [e]
  · exact h
  · exact hupd v

theorem processStmt_wellScoped (reg : Registry) (t : Table) (ph : Name) (hph : ph ≠ "") (s : KStmt) (t' : Table)
    (h : (processStmt reg t ph s).table? = some t') (hw : WellScoped t) : WellScoped t' :=
  processStmt_inv (fun t n k => set_wellScoped t ph n k hph) reg t s t' hw h

theorem inferAll_wellScoped (reg : Registry) (prog : List (Name × KStmt)) (hph : ∀ p ∈ prog, p.1 ≠ "") (t : Table)
    (h : inferAll reg prog = .ok t) : WellScoped t :=
  inferAll_inv reg prog WellScoped (fun _ _ h => h) wellScoped_init
    (fun p hp t t' hw ht => processStmt_wellScoped reg t p.1 (hph p hp) p.2 t' ht hw) t h

/-- in a well-scoped table the mapper's look-up (global table, then the phase's) finds exactly the
    entry `set` maintains for that name -/
theorem lookupVar_eq_get (t : Table) (ph n : Name) (hph : ph ≠ "") (hw : WellScoped t) :
    lookupVar t ph n = t.get ph n := by
  unfold lookupVar Table.get scope
  cases hs : isState n with
  | true =>
    simp only [cond_true]
    cases hg : lookupE t.entries ("", n) with
    | some k => rfl
    | none =>
      simp only
      cases hp : lookupE t.entries (ph, n) with
      | none => rfl
      | some k => exact absurd ((hw ph n k hp).mpr hs) hph
  | false =>
    simp only [cond_false]
    cases hg : lookupE t.entries ("", n) with
    | none => rfl
    | some k =>
      have := (hw "" n k hg).mp rfl
      rw [hs] at this; cases this

/-- the entry for `n` exists and is at least `k` -/
def Above (T : Table) (ph n : Name) (k : Kind) : Prop := ∃ old, T.get ph n = some old ∧ le (some k) (some old)

theorem above_of_absorbed {t : Table} {ph n : Name} {k : Kind} (h : Absorbed t ph n k)
    (hn : ∀ old e, t.get ph n = some old → unifyK k old ≠ .error e) : Above t ph n k := by
  obtain ⟨old, hold, h1 | h2 | ⟨e, he⟩⟩ := h
  · exact ⟨old, hold, le_some_iff.mpr (.inl h1.symm)⟩
  · exact ⟨old, hold, le_some_iff.mpr (.inr h2)⟩
  · exact absurd he (hn old e hold)

theorem Above.lookupVar {t : Table} {ph n : Name} {k : Kind} (h : Above t ph n k) (hph : ph ≠ "")
    (hw : WellScoped t) (k' : Kind) (hk' : lookupVar t ph n = some k') : le (some k) (some k') := by
  obtain ⟨old, hold, l⟩ := h
  rw [lookupVar_eq_get t ph n hph hw, hold] at hk'
  cases hk'
  exact l

end Dagrt.Kinds
