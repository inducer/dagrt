/-
Step loops of the two back ends and the reference semantics of a written builder program —
properties C01 and C11.

* `seqExec`: carrying out the builder calls one after another in the order they were written
  (`with cb.if_(e):` evaluates `e` on entry; the block runs iff it was true; `cb.else_()` runs iff
  the condition of the `if_` closed immediately before was false).
* `flatExec`: what both back ends really execute — the guarded flat statements the builder
  emitted (`Builder.run`), here in an arbitrary order `π` of statement indices (the interpreter's
  controller and the lowering each pick one that respects the recorded dependencies).
* `stepOf` / `runLoop`: `run_single_step` (next phase advanced to the default successor BEFORE the
  body runs, per-step variables discarded afterwards — also when the step fails or raises) and
  `run(t_end, max_steps)` of `NumpyInterpreter` and of the emitted class (failed steps are not
  counted against `max_steps`).
-/
import Dagrt.Model.Builder
namespace Dagrt.StepLoop
open Dagrt Dagrt.Sem Dagrt.Builder

/-! ### the written program, call by call -/

structure SeqState where
  σ : Store
  stack : List Bool          -- was the condition of each open `if_` / `else_` block true on entry?
  lastIf : Option Bool       -- condition of the `if_` block closed immediately before
  failed : Bool              -- the builder itself raised (unbalanced blocks): no program

def allTrue : List Bool → Bool
  | [] => true
  | b :: bs => b && allTrue bs

def seqStep (F : Funs) (s : SeqState) : BOp → SeqState
  | .stmt k =>
    -- `(execI …).σ` is `exec …` (by definition); written this way the compiled driver evaluates the
    -- statement once instead of once per later look-up (`Store` is a function type)
    bif allTrue s.stack then { s with σ := (execI F ⟨.const (.bool true), k⟩ s.σ).σ } else s
  | .ifBegin e =>
    let b := match s.σ.status with
      | .running => allTrue s.stack && (eval F [] s.σ e).truthy
      | _ => false
    { s with stack := s.stack ++ [b] }
  | .ifEnd =>
    match s.stack.reverse with
    | [] => { s with failed := true }
    | top :: restRev => { s with stack := restRev.reverse, lastIf := some top }
  | .elseBegin =>
    match s.lastIf with
    | none => { s with failed := true }
    | some b =>
      -- the entry condition of the else block is the negation of the `if_` condition; whether the
      -- block RUNS is `allTrue` of the whole stack (the enclosing blocks must run as well)
      { s with stack := s.stack ++ [!b] }
  | .elseEnd =>
    match s.stack.reverse with
    | [] => { s with failed := true }
    | _ :: restRev => { s with stack := restRev.reverse, lastIf := none }
  | .fresh _ => s

def seqExec (F : Funs) (ops : List BOp) (σ : Store) : SeqState :=
  ops.foldl (fun s op => bif s.failed then s else seqStep F s op) ⟨σ, [], none, false⟩

/-! ### the flat guarded statements, in a given order -/

def flatStmts (ops : List BOp) : List Stmt := (Builder.run ops).out.map (·.1)

/-- a store in a box: `Store` is a function type, and compiled code that *returns* a function is
    run again for every look-up; a structure (with two fields: a one-field structure is represented
    by its field) makes the driver run each statement once -/
structure Boxed where
  σ : Store
  pad : Nat := 0

def flatStepB (F : Funs) (stmts : List Stmt) (b : Boxed) (i : Nat) : Boxed :=
  match stmts[i]? with
  | some s => { σ := (execI F s b.σ).σ }
  | none => b

def flatStep (F : Funs) (stmts : List Stmt) (σ : Store) (i : Nat) : Store :=
  match stmts[i]? with
  | some s => (execI F s σ).σ
  | none => σ

def flatExec (F : Funs) (stmts : List Stmt) (π : List Nat) (σ : Store) : Store :=
  (π.foldl (flatStepB F stmts) { σ := σ }).σ

theorem flatStepB_σ (F : Funs) (stmts : List Stmt) (b : Boxed) (i : Nat) :
    (flatStepB F stmts b i).σ = flatStep F stmts b.σ i := by
  unfold flatStepB flatStep; split <;> rfl

/-- `flatExec` is the plain fold (the box is only there for the compiled driver) -/
theorem flatExec_def (F : Funs) (stmts : List Stmt) : ∀ (π : List Nat) (σ : Store),
    flatExec F stmts π σ = π.foldl (flatStep F stmts) σ :=
  fun _ _ => (List.foldl_hom Boxed.σ fun b i => (flatStepB_σ F stmts b i).symm).symm

/-! ### one step -/

/-- names that outlive a step (`run_single_step`'s `finally`; instance attributes of the emitted class) -/
def hasPrefix (p n : String) : Bool := p.toList.isPrefixOf n.toList

def isPersistent (n : Name) : Bool :=
  n == "<t>" || n == "<dt>" || hasPrefix "<state>" n || hasPrefix "<p>" n

def persist (σ : Store) : Store := fun x => bif isPersistent x then σ x else .val .none

def startStep (σ : Store) : Store := (persist σ).set EXEC (.exec [] .running)

structure Phase where
  name : Name
  next : Name
  ops : List BOp

inductive Ev where
  | state (t : Val) (timeId comp : String) (v : Val)
  | completed (dt t : Val) (cur next : Name)
  | failed (t : Val)
  | raised (err : String)
  | noSuchPhase (p : Name)        -- `KeyError` from the phase table
  deriving DecidableEq, Repr

structure RunState where
  σ : Store          -- only the persistent names matter
  next : Name

def findPhase (ps : List Phase) (n : Name) : Option Phase := ps.find? (fun p => p.name == n)

def evOf : Event → Ev
  | .stateComputed t tid comp v => .state t tid comp v

inductive Outcome where
  | completed | failed | raised | stuck
  deriving DecidableEq, Repr

/-- what `run` makes of the store the body of a phase left behind (`@[noinline]`, and the store
    arrives in its box: the compiled driver must not move the execution of the body into the
    closure that represents the next store) -/
@[noinline] def finishStep (ph : Phase) (b : Boxed) : List Ev × Outcome × RunState :=
  let evs := b.σ.log.map evOf
  let σ' := persist b.σ
  match b.σ.status with
  | .running =>
    (evs ++ [.completed (σ'.get "<dt>") (σ'.get "<t>") ph.name ph.next], .completed, ⟨σ', ph.next⟩)
  | .switched p =>
    (evs ++ [.completed (σ'.get "<dt>") (σ'.get "<t>") ph.name p], .completed, ⟨σ', p⟩)
  | .failed => (evs ++ [.failed (σ'.get "<t>")], .failed, ⟨σ', ph.next⟩)
  | .raised e => (evs ++ [.raised e], .raised, ⟨σ', ph.next⟩)

/-- one pass through the body of `run`'s loop, given how the body of the phase is executed -/
def stepWith (body : Phase → Store → Boxed) (ps : List Phase) (s : RunState) : List Ev × Outcome × RunState :=
  match findPhase ps s.next with
  | none => ([.noSuchPhase s.next], .stuck, s)
  | some ph => finishStep ph (body ph (startStep s.σ))

/-- `<t> >= t_end` on the exact values of the model -/
def reached (σ : Store) (tEnd : Option Int) : Bool :=
  match tEnd, σ.get "<t>" with
  | some e, .int t => decide (t ≥ e)
  | _, _ => false

/-- `run(t_end, max_steps)`: at most `fuel` passes through the loop; returns the events and, after
    every pass, the state (what an observer sees after each step) -/
def stopNow (s : RunState) (tEnd : Option Int) (maxSteps : Option Nat) (n : Nat) : Bool :=
  reached s.σ tEnd || (match maxSteps with | some m => decide (n ≥ m) | none => false)

def runLoop (step : RunState → List Ev × Outcome × RunState) (tEnd : Option Int) (maxSteps : Option Nat) :
    Nat → Nat → RunState → List (List Ev × RunState)
  | 0, _, _ => []
  | fuel + 1, n, s =>
    match stopNow s tEnd maxSteps n with
    | true => []
    | false =>
      match step s with
      | (evs, .completed, s') => (evs, s') :: runLoop step tEnd maxSteps fuel (n + 1) s'
      | (evs, .failed, s') => (evs, s') :: runLoop step tEnd maxSteps fuel n s'
      | (evs, .raised, s') => [(evs, s')]
      | (evs, .stuck, s') => [(evs, s')]

/-- the reference: every step carries out the written program in program order -/
def stepRef (F : Funs) (ps : List Phase) : RunState → List Ev × Outcome × RunState :=
  stepWith (fun ph σ => { σ := (seqExec F ph.ops σ).σ }) ps

/-- a back end: every step executes the emitted flat statements in the order `sched` picks -/
def stepFlat (F : Funs) (sched : Phase → List Nat) (ps : List Phase) : RunState → List Ev × Outcome × RunState :=
  stepWith (fun ph σ => { σ := flatExec F (flatStmts ph.ops) (sched ph) σ }) ps

/-! ### a step that is cut short by an exception from a user function (C11)

The statements `pre` (a prefix of the order the back end uses) have been executed when the exception
leaves the step; `run_single_step`'s `finally` discards the per-step variables; the successor was
already stored. -/
def abortedStep (F : Funs) (ph : Phase) (pre : List Nat) (s : RunState) : RunState :=
  ⟨persist (flatExec F (flatStmts ph.ops) pre (startStep s.σ)), ph.next⟩

end Dagrt.StepLoop
