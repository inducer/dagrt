import Dagrt.Proofs.Unify
import Dagrt.Proofs.KindOrderProofs
import Dagrt.Model.Builtins
import Dagrt.Proofs.RegMonoProofs
/-!
# C14 — kind unification is a partial join; kind inference is order-independent

Model: `Dagrt.Kinds` (`Model/Kinds.lean`) = `dagrt.data.unify`, `SymbolKindTable.set`,
`KindInferenceMapper`, `SymbolKindFinder.__call__`.  The theorems about `unify` hold for
ALL kinds, including arbitrary user-type identifiers (case analysis on identifier
equality, not enumeration).  `Generated/UnifyTable.lean` (rewritten from the real function
on every run) proves by `decide` that the real function equals the model on the finite
universe used by the property.
-/
namespace Dagrt.C14
open Dagrt.Kinds

/-- combining a kind with itself, where defined, returns it -/
theorem unify_idem (a r : Option Kind) (h : unify a a = .ok r) : r = a := Kinds.unify_idem a r h

/-- …and it is defined for every kind except the flag kind (arithmetic on flags is refused) -/
theorem unify_idem_defined (a : Option Kind) (h : a ≠ some .boolean) : unify a a = .ok a := by
  cases a with
  | none => simp
  | some k => cases k <;> simp_all [unify]

/-- commutative wherever defined: success for one argument order is success, with the same
    result, for the other -/
theorem unify_comm (a b r : Option Kind) (h : unify a b = .ok r) : unify b a = .ok r :=
  Kinds.unify_comm a b r h

/-- associative wherever defined, in both directions -/
theorem unify_assoc (a b c r : Option Kind) :
    (unify a b).bind (fun ab => unify ab c) = .ok r ↔
    (unify b c).bind (fun bc => unify a bc) = .ok r :=
  unify_assoc_iff a b c r

/-- `unify` is the least upper bound for the information order `le` (a partial order) -/
theorem unify_lub (a b c : Option Kind) (h : unify a b = .ok c) :
    le a c ∧ le b c ∧ ∀ d, le a d → le b d → le c d :=
  ⟨unify_upper_left a b c h, unify_upper_right a b c h, fun d => unify_least a b c d h⟩

theorem le_partial_order :
    (∀ a, le a a) ∧ (∀ a b, le a b → le b a → a = b) ∧ (∀ a b c, le a b → le b c → le a c) :=
  ⟨le_refl, le_antisymm, le_trans⟩

/-! non-vacuity: the pairs that were asymmetric on the pinned tree (repaired by a `fix:` commit) -/
example : unify (some .integer) (some (.user "y")) = .ok (some (.user "y")) ∧
          unify (some (.user "y")) (some .integer) = .ok (some (.user "y")) := by decide
example : (unify (some (.array true)) (some (.scalar false))).bind (fun ab => unify ab (some .integer))
          = .ok (some (.array false)) := by decide

/-! ### kind inference does not depend on the order of the statements

The work-list loop (`inferAll`) returns the LEAST strict post-fix-point of the statements' rules
above the initial table: it is a post-fix-point (`KindLoopProofs.inferAll_postfix`), and every table
it goes through stays below any strict post-fix-point (`KindOrderProofs.inferAll_least`, from the
monotonicity of the rules in the table, `infer_mono`).  Two runs over the same statements - in any
order, with any repetitions, phases interleaved in any way - therefore return tables with exactly
the same entries.

Hypotheses: no unification failure was printed-and-ignored in either run (`NoIgnored`: necessary,
its failure is the recorded known finding `C14-incompatible-kinds-first-wins`, where the result DOES
depend on the order); the registered functions are monotone in the loop's mode (`RegMono`: what the
proof uses, not shown necessary for the conclusion; true of functions with fixed result kinds,
`regMono_fixed`; for the built-ins it can fail on arguments of a kind the final consistency pass
rejects anyway, e.g. `matmul` of a user type). -/

/-- no unification failure was swallowed for this statement -/
def NoIgnored (reg : Registry) (t : Table) (ph : Name) : KStmt → Prop
  | .assign lhs _ _ flat loops =>
    (∀ i ∈ loops, ∀ old e, t.get ph i = some old → unifyK .integer old ≠ .error e) ∧
    (∀ k old e, infer false reg t ph flat = .ok k → t.get ph lhs = some old → unifyK k old ≠ .error e)
  | .callAssign lhs f args kw =>
    ∀ ks, inferCall false reg t ph f args kw = .ok ks →
      ∀ p ∈ zipNK lhs ks, ∀ old e, t.get ph p.1 = some old → unifyK p.2 old ≠ .error e
  | .other => True

theorem strict_of_fix {reg : Registry} {t : Table} {ph : Name} {s : KStmt}
    (h : StmtFix reg t ph s) (hn : NoIgnored reg t ph s) : StmtFixS reg t ph s := by
  cases s with
  | assign lhs hasSub rhs flat loops =>
    obtain ⟨hl, ha⟩ := h
    obtain ⟨nl, na⟩ := hn
    refine ⟨fun i hi => above_of_absorbed (hl i hi) (fun old e => nl i hi old e), fun hs => ?_⟩
    obtain ⟨k, hk, hab⟩ := ha hs
    exact ⟨k, hk, above_of_absorbed hab (fun old e => na k old e hk)⟩
  | callAssign lhs f args kw =>
    obtain ⟨ks, hks, hab⟩ := h
    exact ⟨ks, hks, fun p hp => above_of_absorbed (hab p hp) (fun old e => hn ks hks p hp old e)⟩
  | other => trivial

/-- functions with fixed result kinds (`FixedResultKindsFunction`, what user right-hand sides are
    registered as) are monotone -/
theorem regMono_fixed (fixed : List (Name × List Kind)) :
    RegMono (fun f => (fixed.lookup f).map (fun ks _ _ _ => .ok ks)) := by
  intro f fn hf ak ak' kk kk' ks _ _ hfn
  cases hl : fixed.lookup f with
  | none => simp [hl] at hf
  | some ks0 =>
    simp only [hl, Option.map_some, Option.some.injEq] at hf
    subst hf
    simp only [Except.ok.injEq] at hfn
    subst hfn
    exact ⟨ks0, rfl, ksLe_refl ks0⟩

/-- **Kind inference is order-independent** (all programs, all registries of monotone functions):
    two presentations of the same statements - any order, any repetitions - on which inference
    succeeds without a swallowed unification failure give tables with exactly the same entries. -/
theorem inference_order_independent (reg : Registry) (hreg : RegMono reg)
    (prog prog' : List (Name × KStmt)) (hsame : ∀ p, p ∈ prog ↔ p ∈ prog')
    (hph : ∀ p ∈ prog, p.1 ≠ "")
    (t t' : Table) (h : inferAll reg prog = .ok t) (h' : inferAll reg prog' = .ok t')
    (hn : ∀ p ∈ prog, NoIgnored reg t p.1 p.2) (hn' : ∀ p ∈ prog', NoIgnored reg t' p.1 p.2) :
    ∀ key, lookupE t.entries key = lookupE t'.entries key := by
  have hph' : ∀ p ∈ prog', p.1 ≠ "" := fun p hp => hph p ((hsame p).mpr hp)
  have hw := inferAll_wellScoped reg prog hph t h
  have hw' := inferAll_wellScoped reg prog' hph' t' h'
  -- each result is a strict post-fix-point of the statements - of both presentations
  have fix : ∀ p ∈ prog, StmtFixS reg t p.1 p.2 :=
    fun p hp => strict_of_fix (inferAll_postfix reg prog t h p hp) (hn p hp)
  have fix' : ∀ p ∈ prog', StmtFixS reg t' p.1 p.2 :=
    fun p hp => strict_of_fix (inferAll_postfix reg prog' t' h' p hp) (hn' p hp)
  have work : WorkOK reg t' prog := fun p hp => ⟨hph p hp, fix' p ((hsame p).mp hp)⟩
  have work' : WorkOK reg t prog' := fun p hp => ⟨hph' p hp, fix p ((hsame p).mpr hp)⟩
  -- both are above the initial table
  have init_t : TLe Table.init t := inferAll_above_init reg prog t h
  have init_t' : TLe Table.init t' := inferAll_above_init reg prog' t' h'
  exact tle_antisymm (inferAll_least reg hreg prog t h t' hw' work init_t')
    (inferAll_least reg hreg prog' t' h' t hw work' init_t)

/-- an instance: the two orders of a program in which one statement has to wait for the other -/
example :
    let s1 : Name × KStmt := ("p", .assign "y" false (.prod [.var "x", .const (.cplx "1j")]) (.prod [.var "x", .const (.cplx "1j")]) [])
    let s2 : Name × KStmt := ("p", .assign "x" false (.var "<t>") (.var "<t>") [])
    let r := fun prog => (inferAll (mkRegistry []) prog).toOption.map
      (fun t => (t.get "p" "x", t.get "p" "y", t.get "p" "<t>", t.get "p" "<dt>"))
    r [s1, s2] = r [s2, s1] ∧ (r [s1, s2]).isSome = true := by decide +kernel

/-- **The hypothesis on the registry is met** by the registries the property talks about - the
    built-ins whose result kinds depend monotonically on the argument kinds (constant for the norms,
    `len`, `isnan`, `dot_product`, `array`, `print`; the shape of the argument for `elementwise_abs`)
    plus any user functions registered with fixed result kinds: for them order independence holds
    with no assumption on the functions. -/
theorem inference_order_independent_builtins (fixed : List (Name × List Kind))
    (prog prog' : List (Name × KStmt)) (hsame : ∀ p, p ∈ prog ↔ p ∈ prog')
    (hph : ∀ p ∈ prog, p.1 ≠ "")
    (t t' : Table) (h : inferAll (mkRegistrySimple fixed) prog = .ok t)
    (h' : inferAll (mkRegistrySimple fixed) prog' = .ok t')
    (hn : ∀ p ∈ prog, NoIgnored (mkRegistrySimple fixed) t p.1 p.2)
    (hn' : ∀ p ∈ prog', NoIgnored (mkRegistrySimple fixed) t' p.1 p.2) :
    ∀ key, lookupE t.entries key = lookupE t'.entries key :=
  inference_order_independent _ (regMono_simple fixed) prog prog' hsame hph t t' h h' hn hn'

/-- the full registry does not meet `RegMono`: one witness, `matmul` (`regMono_fails_matmul`: a scalar
    argument is answered, the user type it may be refined to raises).  This refutes the hypothesis the
    proof uses, not order independence itself. -/
theorem matmul_not_monotone : ¬ RegMono (mkRegistry []) := regMono_fails_matmul

/-- non-vacuity: a program over the simple registry whose two orders both succeed -/
example :
    let s1 : Name × KStmt := ("p", .callAssign ["n"] "<builtin>norm_2" [.var "x"] [])
    let s2 : Name × KStmt := ("p", .callAssign ["x"] "<func>rhs" [.var "<t>"] [])
    let reg := mkRegistrySimple [("<func>rhs", [.user "y"])]
    let r := fun prog => (inferAll reg prog).toOption.map (fun t => (t.get "p" "x", t.get "p" "n"))
    r [s1, s2] = r [s2, s1] ∧ r [s1, s2] = some (some (.user "y"), some (.scalar true)) := by decide +kernel

end Dagrt.C14
