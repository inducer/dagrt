import Dagrt.Proofs.VerifyProofs
/-!
# C10 — well-formedness verification accepts exactly the well-formed methods

Model: `Dagrt.Verify` (`Model/Verify.lean`) = `dagrt.codegen.analysis.verify_code` with its
four passes and the `try/except` aggregator.  Python exceptions are outcomes of the model
(`otherException`), the unbounded `while stack:` loop is run with fuel and proved to
terminate.  Hypothesis of the verifier-level theorems: statement ids are unique within a
phase (`ids p` has no duplicates) — the code builder guarantees it and the property does not
speak about duplicated ids.
-/
namespace Dagrt.C10
open Dagrt.Verify

/-- the four clauses of the property, per phase -/
def WellFormed (phases : List Phase) : Prop :=
  ∀ p ∈ phases, DepsClosed p ∧ PhaseAcyclic p ∧ SwitchOk phases.length p ∧ CondSingle p

/-- the cycle check never hangs: the potential `|stack| + Σ_{unvisited}(deg+1)` strictly
    decreases, so the fuel of the model is never exhausted -/
theorem terminates (p : Phase) (hnd : (ids p).Nodup) : cycleCheck p ≠ .outOfFuel := by
  intro h
  simpa [h] using cycleCheck_spec p hnd

/-- a reported cycle is a real one: no rank function exists for the phase -/
theorem cycleCheck_sound (p : Phase) (hnd : (ids p).Nodup) (h : cycleCheck p = .cycle) :
    ¬ PhaseAcyclic p := by
  simpa [h] using cycleCheck_spec p hnd

/-- no report means acyclic: the finish order is a rank function -/
theorem cycleCheck_complete (p : Phase) (hnd : (ids p).Nodup) (o : List Nat)
    (h : cycleCheck p = .noCycle o) : PhaseAcyclic p := by
  simpa [h] using cycleCheck_spec p hnd

/-- a failed dictionary look-up in the cycle check means a dependency names nothing in the phase -/
theorem cycleCheck_keyError (p : Phase) (hnd : (ids p).Nodup) (h : cycleCheck p = .keyError) :
    ¬ DepsClosed p := by
  simpa [h] using cycleCheck_spec p hnd

theorem cyclePass_spec : ∀ (phases : List Phase), (∀ p ∈ phases, (ids p).Nodup) →
    match cyclePass phases with
    | (_, true) => ¬ ∀ p ∈ phases, DepsClosed p
    | (true, false) => ¬ ∀ p ∈ phases, PhaseAcyclic p
    | (false, false) => ∀ p ∈ phases, PhaseAcyclic p := by
  intro phases hnd
  induction phases with
  | nil => simp [cyclePass]
  | cons p ps ih =>
    have ih := ih fun q hq => hnd q (List.mem_cons_of_mem _ hq)
    have hp := cycleCheck_spec p (hnd p List.mem_cons_self)
    unfold cyclePass
    simp only [List.forall_mem_cons]
    cases heq : cycleCheck p <;> rw [heq] at hp
    · rcases hps : cyclePass ps with ⟨_ | _, _ | _⟩ <;> rw [hps] at ih
      · exact ⟨hp, ih⟩
      · exact fun h => ih h.2
      · exact fun h => ih h.2
      · exact fun h => ih h.2
    · rcases hps : cyclePass ps with ⟨c, _ | _⟩ <;> rw [hps] at ih
      · exact fun h => hp h.1
      · exact fun h => ih h.2
    · exact fun h => hp h.1
    · exact hp.elim

theorem verify_accept_iff (phases : List Phase) :
    verify phases = .accept ↔ cyclePass phases = (false, false) ∧ phases.any depsMissing = false ∧
      phases.any (switchBad phases.length) = false ∧ phases.any condBad = false := by
  have key : ∀ (b : Bool) (k : Kinds),
      (if b = true then Outcome.codegenError k else .accept) = .accept ↔ b = false := by
    intro b k
    cases b <;> simp
  unfold verify
  rcases cyclePass phases with ⟨c, _ | _⟩
  · simp only [key]
    simp only [Kinds.any, Bool.or_eq_false_iff, Prod.mk.injEq, and_true]
    exact ⟨fun h => ⟨h.1.1.2, h.1.1.1, h.1.2, h.2⟩, fun h => ⟨⟨⟨h.2.1, h.1⟩, h.2.2.1⟩, h.2.2.2⟩⟩
  · simp only [Prod.mk.injEq, Bool.true_eq_false, and_false, false_and, iff_false]
    split <;> exact fun h => nomatch h

theorem verify_other {phases : List Phase} {t : String} (h : verify phases = .otherException t) :
    (cyclePass phases).2 = true ∧ phases.any depsMissing = false := by
  rcases hcp : cyclePass phases with ⟨c, _ | _⟩ <;> simp only [verify, hcp] at h
  · split at h <;> cases h
  · split at h
    · cases h
    · rename_i hk
      simp only [Bool.not_eq_true, Bool.or_eq_false_iff] at hk
      exact ⟨rfl, hk.1⟩

/-- verification never raises anything but the documented error -/
theorem never_other_exception (phases : List Phase) (hnd : ∀ p ∈ phases, (ids p).Nodup) (t : String) :
    verify phases ≠ .otherException t := by
  intro h
  obtain ⟨he, hd⟩ := verify_other h
  have hc := cyclePass_spec phases hnd
  rcases hcp : cyclePass phases with ⟨c, e⟩
  rw [hcp] at hc he
  cases he
  simp only [List.any_eq_false, Bool.not_eq_true, depsMissing_false] at hd
  exact hc hd

/-- a rejection always carries at least one message -/
theorem rejection_has_message (phases : List Phase) (k : Kinds) (h : verify phases = .codegenError k) :
    k.any = true := by
  rcases hcp : cyclePass phases with ⟨c, _ | _⟩ <;> simp only [verify, hcp] at h
  · split at h
    · rename_i hk
      cases h
      exact hk
    · cases h
  · split at h
    · rename_i hk
      cases h
      simpa [Kinds.any] using hk
    · cases h

/-- acceptance is exactly well-formedness -/
theorem accept_iff_wellformed (phases : List Phase) (hnd : ∀ p ∈ phases, (ids p).Nodup) :
    verify phases = .accept ↔ WellFormed phases := by
  have hc := cyclePass_spec phases hnd
  simp only [verify_accept_iff, List.any_eq_false, Bool.not_eq_true, depsMissing_false, switchBad_false,
    condBad_false]
  constructor
  · rintro ⟨hcp, h1, h3, h4⟩ p hp
    rw [hcp] at hc
    exact ⟨h1 p hp, hc p hp, h3 p hp, h4 p hp⟩
  · intro hwf
    refine ⟨?_, fun p hp => (hwf p hp).1, fun p hp => (hwf p hp).2.2.1, fun p hp => (hwf p hp).2.2.2⟩
    rcases hcp : cyclePass phases with ⟨_ | _, _ | _⟩ <;> rw [hcp] at hc
    · exact absurd (fun p hp => (hwf p hp).1) hc
    · exact absurd (fun p hp => (hwf p hp).2.1) hc
    · exact absurd (fun p hp => (hwf p hp).1) hc

/-- hence an ill-formed method is never accepted and always rejected with the documented error -/
theorem illformed_rejected (phases : List Phase) (hnd : ∀ p ∈ phases, (ids p).Nodup)
    (h : ¬ WellFormed phases) : ∃ k, verify phases = .codegenError k ∧ k.any = true := by
  cases hv : verify phases with
  | accept => exact absurd ((accept_iff_wellformed phases hnd).mp hv) h
  | otherException t => exact absurd hv (never_other_exception phases hnd t)
  | codegenError k => exact ⟨k, rfl, rejection_has_message phases k hv⟩

/-- what consumers (planner, lowering) rely on after acceptance: every dependency resolves inside
    the phase and a rank function bounds every recursion over dependencies -/
theorem accept_implies_consumers_safe (phases : List Phase) (hnd : ∀ p ∈ phases, (ids p).Nodup)
    (h : verify phases = .accept) :
    ∀ p ∈ phases, (∀ s ∈ p, ∀ d ∈ s.deps, (lookup p d).isSome) ∧
      ∃ rank : Nat → Nat, ∀ s ∈ p, ∀ d ∈ s.deps, rank d < rank s.id := by
  intro p hp
  have hw := (accept_iff_wellformed phases hnd).mp h p hp
  refine ⟨fun s hs d hd => ?_, hw.2.1⟩
  have := known_iff.mpr (hw.1 s hs d hd)
  simpa [known] using this

/-! non-vacuity: an accepted method with a switch and a flag; a two-statement cycle; a dependency on
    a statement of another phase (a bare `KeyError` before the `fix:` commit, now a reported missing
    dependency) -/
def ex_ok : List Phase := [[⟨0, [], none, []⟩, ⟨1, [0], some 0, [7]⟩, ⟨2, [0, 1], none, []⟩]]
def ex_cycle : List Phase := [[⟨0, [1], none, []⟩, ⟨1, [0], none, []⟩]]
def ex_cross : List Phase := [[⟨0, [5], none, []⟩], [⟨5, [], none, []⟩]]
example : verify ex_ok = .accept := by decide
example : verify ex_cycle = .codegenError ⟨false, true, false, false⟩ := by decide
example : verify ex_cross = .codegenError ⟨true, false, false, false⟩ := by decide
example : ∀ p ∈ ex_ok, (ids p).Nodup := by decide

end Dagrt.C10
