import Dagrt.Model.PrintParse
import Dagrt.Proofs.FuseProofs
/-!
# C19 — printing an expression and parsing it back returns the same expression

Model: `Dagrt.PrintParse` (`Model/PrintParse.lean`) = the dagrt-owned parts of
`dagrt.expression.parse`: the lexer table (first matching rule wins) with the identifier rule
extended by backtick-delimited identifiers, `_ExtendedParser.parse_terminal` for `<tag>name`, and
the backtick-removal pass.  pymbolic's precedence-climbing parser and its printer are third party
and NOT modelled: the round trip of whole expressions is decided on every run by the oracle on the
real code (prints identically, same variables, same value, constants keep their type).

Proved here, for ALL names / token lists / expressions:
* terminals at token level: `<`, tag, `>`, name is read as the one variable `<tag>name`; a tag-only
  identifier is read as `<tag>` when no identifier token follows; a plain identifier is itself;
* **backtick-quoted names denote the variable between the backticks**: for every run `q` of
  characters the quoting rule admits, the string `` `q` `` lexes to a single identifier token and
  parses to the variable `q` (lexer + terminal rule + removal pass composed);
* the removal pass renames exactly by `unquote`: it is the substitution `x ↦ unquote x` on every
  variable occurrence (function symbols, subscript aggregates and look-ups included), so the
  variables of the result are the unquoted variables of the input, and names without backticks are
  untouched.
-/
namespace Dagrt.C19
open Dagrt Dagrt.PrintParse

theorem spanP_all (p : Char → Bool) : ∀ (a rest : List Char), (∀ c ∈ a, p c = true) →
    (∀ c r, rest = c :: r → p c = false) → spanP p (a ++ rest) = (a, rest) := by
  intro a rest ha hr
  induction a with
  | nil =>
    cases rest with
    | nil => rfl
    | cons c r => simp [spanP, hr c r rfl]
  | cons c a ih =>
    have := ih fun x hx => ha x (List.mem_cons_of_mem _ hx)
    simp [spanP, ha c List.mem_cons_self, this]

theorem startsWith_some : ∀ (p s r : List Char), startsWith p s = some r ↔ s = p ++ r
  | [], s, r => by simp [startsWith]
  | _ :: _, [], r => by simp [startsWith]
  | x :: p, c :: s, r => by
    simp only [startsWith]
    split
    · rename_i h; subst h
      rw [startsWith_some p s r]; simp
    · rename_i h
      simp only [reduceCtorEq, List.cons_append, List.cons.injEq, false_iff, not_and]
      intro h'; exact absurd h'.symm h

theorem firstPrefix_head (c : Char) (s : List Char) : ∀ cands : List String,
    (∀ k ∈ cands, ∃ d, k.toList.head? = some d ∧ d ≠ c) → firstPrefix cands (c :: s) = none := by
  intro cands h
  induction cands with
  | nil => rfl
  | cons k ks ih =>
    replace ih := ih fun k' hk' => h k' (List.mem_cons_of_mem _ hk')
    obtain ⟨d, hd, hne⟩ := h k List.mem_cons_self
    cases hl : k.toList with
    | nil => simp [hl] at hd
    | cons d' r =>
      obtain rfl : d' = d := by simpa [hl] using hd
      simp [firstPrefix, hl, startsWith, hne, ih]

theorem firstKeyword_of_firstPrefix (s : List Char) : ∀ cands : List String,
    firstPrefix cands s = none → firstKeyword cands s = none := by
  intro cands h
  induction cands with
  | nil => rfl
  | cons k ks ih =>
    unfold firstPrefix at h
    split at h
    · cases h
    · rename_i hs
      simp [firstKeyword, hs, ih h]

/-- `<tag>name`: four tokens, one variable -/
theorem terminal_tagged (tag name : String) (rest : List Tok) :
    parseTerminal (.op "<" :: .ident tag :: .op ">" :: .ident name :: rest) =
      .ok ("<" ++ tag ++ ">" ++ name, rest) := by
  simp [parseTerminal]

/-- `<tag>` alone: the variable `<tag>`, provided no identifier token follows (then the two would
    be glued together — the printer never puts two terminals next to each other) -/
theorem terminal_tag_only (tag : String) (rest : List Tok) (h : ∀ n r, rest ≠ .ident n :: r) :
    parseTerminal (.op "<" :: .ident tag :: .op ">" :: rest) = .ok ("<" ++ tag ++ ">", rest) := by
  unfold parseTerminal
  cases rest with
  | nil => rfl
  | cons t r =>
    cases t with
    | ident n => exact absurd rfl (h n r)
    | _ => rfl

theorem terminal_plain (name : String) (rest : List Tok) :
    parseTerminal (.ident name :: rest) = .ok (name, rest) := by
  simp [parseTerminal]

/-- a tag that is not followed by `>` is a parse error, not a wrong variable -/
theorem terminal_unclosed_tag (tag : String) (rest : List Tok) (h : ∀ r, rest ≠ .op ">" :: r) :
    parseTerminal (.op "<" :: .ident tag :: rest) = .error (.expected ">") := by
  cases rest with
  | nil => simp [parseTerminal]
  | cons t r => cases t <;> simp [parseTerminal]

theorem unquote_quoted (q : List Char) : unquote (String.ofList ('`' :: q ++ ['`'])) = String.ofList q := by
  unfold unquote
  simp

theorem unquote_plain (n : Name) (h : ∀ r, n.toList ≠ '`' :: r) : unquote n = n := by
  unfold unquote
  split
  · rename_i r heq; exact absurd heq (h r)
  · rfl

/-- the tables: every operator, keyword and literal starts with a character that is not a
    backtick; every operator with one that cannot start an identifier -/
theorem op_heads : ∀ k ∈ fixedOps ++ lateOps, ∃ d, k.toList.head? = some d ∧ isIdentStart d = false ∧ d ≠ '`' := by
  decide +kernel
theorem kw_heads : ∀ k ∈ keywords ++ ["True", "False"], ∃ d, k.toList.head? = some d ∧ d ≠ '`' := by
  decide +kernel

theorem ops_skip {c : Char} (hc : isIdentStart c = true ∨ c = '`') (s : List Char) :
    firstPrefix fixedOps (c :: s) = none ∧ firstPrefix lateOps (c :: s) = none := by
  have h : ∀ k ∈ fixedOps ++ lateOps, ∃ d, k.toList.head? = some d ∧ d ≠ c := by
    intro k hk
    obtain ⟨d, hd, h1, h2⟩ := op_heads k hk
    refine ⟨d, hd, ?_⟩
    rintro rfl
    rcases hc with hc | hc
    · rw [hc] at h1
      cases h1
    · exact h2 hc
  exact ⟨firstPrefix_head c s _ fun k hk => h k (List.mem_append_left _ hk),
    firstPrefix_head c s _ fun k hk => h k (List.mem_append_right _ hk)⟩

theorem lexOne_ident {s a r : List Char} (h1 : firstPrefix fixedOps s = none)
    (h2 : firstKeyword keywords s = none) (h3 : lexNumber s = none) (h4 : firstPrefix lateOps s = none)
    (h5 : firstPrefix ["True", "False"] s = none) (hid : lexIdent s = some (a, r)) :
    lexOne s = some (.ident (String.ofList a), r) := by
  simp only [lexOne, h1, h2, h3, h4, h5, hid]

theorem lexNumber_none {c : Char} (hd : isDigit c = false) (hdot : c ≠ '.') (s : List Char) :
    lexNumber (c :: s) = none := by
  simp [lexNumber, spanP, hd, hdot]

theorem lexOne_quoted (q rest : List Char) (hq : ∀ c ∈ q, isQuotedChar c = true) :
    lexOne ('`' :: q ++ '`' :: rest) = some (.ident (String.ofList ('`' :: q ++ ['`'])), rest) := by
  have hsp : spanP isQuotedChar (q ++ '`' :: rest) = (q, '`' :: rest) :=
    spanP_all isQuotedChar q ('`' :: rest) hq (by rintro c r ⟨⟩; decide)
  obtain ⟨h1, h4⟩ := ops_skip (.inr rfl) (q ++ '`' :: rest)
  refine lexOne_ident h1 ?_ (lexNumber_none (by decide) (by decide) _) h4 ?_ ?_
  · exact firstKeyword_of_firstPrefix _ _ (firstPrefix_head _ _ _ fun k hk => kw_heads k (List.mem_append_left _ hk))
  · exact firstPrefix_head _ _ _ fun k hk => kw_heads k (List.mem_append_right _ hk)
  · simp [lexIdent, isIdentStart, isLetter, hsp]

theorem lexFuel_one {c : Char} {cs : List Char} {t : Tok} (h : lexOne (c :: cs) = some (t, [])) (n : Nat) :
    lexFuel (n + 1) (c :: cs) = some [t] := by
  simp [lexFuel, h]

/-- **Backtick-quoted names denote the variable between the backticks** -/
theorem quoted_name_denotes (q : List Char) (hq : ∀ c ∈ q, isQuotedChar c = true) :
    parseName (String.ofList ('`' :: q ++ ['`'])) = .ok (String.ofList q) := by
  have hl : lex (String.ofList ('`' :: q ++ ['`'])) = some [.ident (String.ofList ('`' :: q ++ ['`']))] := by
    rw [lex, String.toList_ofList]
    exact lexFuel_one (lexOne_quoted q [] hq) _
  rw [parseName, hl]
  simp only [dropWs, List.filter, parseTerminal]
  rw [unquote_quoted]

/-- the opening `<` of a tag is its own token whenever the tag does not start with `<` or `=`
    (no `<<`, `<=`) … -/
theorem lexOne_less (c : Char) (rest : List Char) (h1 : c ≠ '<') (h2 : c ≠ '=') :
    lexOne ('<' :: c :: rest) = some (.op "<", c :: rest) := by
  simp [lexOne, fixedOps, firstPrefix, startsWith, Ne.symm h1, Ne.symm h2]

/-- … and the closing `>` whenever what follows does not start with `>` or `=` -/
theorem lexOne_greater (rest : List Char) (h : ∀ c r, rest = c :: r → c ≠ '>' ∧ c ≠ '=') :
    lexOne ('>' :: rest) = some (.op ">", rest) := by
  cases rest with
  | nil => simp [lexOne, fixedOps, firstPrefix, startsWith]
  | cons c r =>
    obtain ⟨h1, h2⟩ := h c r rfl
    simp [lexOne, fixedOps, firstPrefix, startsWith, Ne.symm h1, Ne.symm h2]

theorem start_not_digit (c : Char) (hc : isIdentStart c = true) : isDigit c = false := by
  -- digits have codes 48..57; letters 65..90 and 97..122; `_` `@` `$` are 95, 64, 36
  rw [isDigit, Bool.and_eq_false_iff, decide_eq_false_iff_not, decide_eq_false_iff_not, Char.le_def, Char.le_def,
    UInt32.le_iff_toNat_le, UInt32.le_iff_toNat_le]
  simp only [isIdentStart, isLetter, Bool.or_eq_true, Bool.and_eq_true, decide_eq_true_eq, beq_iff_eq,
    Char.le_def, UInt32.le_iff_toNat_le] at hc
  rcases hc with (((⟨h, _⟩ | ⟨h, _⟩) | rfl) | rfl) | rfl
  · have : ('a' : Char).val.toNat = 97 := rfl
    have : ('9' : Char).val.toNat = 57 := rfl
    omega
  · have : ('A' : Char).val.toNat = 65 := rfl
    have : ('9' : Char).val.toNat = 57 := rfl
    omega
  all_goals decide

/-- **A plain identifier lexes to one identifier token**: an identifier-start character followed by
    identifier characters, up to a character that cannot continue an identifier, unless the lexer's
    keyword rules claim its beginning (`and`/`or`/`not`/`if`/`else` followed by a non-word character,
    or the literals `True`/`False` as a prefix) -/
theorem lexOne_plain (c : Char) (a rest : List Char) (hc : isIdentStart c = true)
    (ha : ∀ x ∈ a, isIdentChar x = true) (hb : ∀ x r, rest = x :: r → isIdentChar x = false)
    (hk : firstKeyword keywords (c :: a ++ rest) = none)
    (hT : firstPrefix ["True", "False"] (c :: a ++ rest) = none) :
    lexOne (c :: a ++ rest) = some (.ident (String.ofList (c :: a)), rest) := by
  have hsp : spanP isIdentChar (a ++ rest) = (a, rest) := spanP_all isIdentChar a rest ha hb
  obtain ⟨h1, h4⟩ := ops_skip (.inl hc) (a ++ rest)
  refine lexOne_ident h1 hk (lexNumber_none (start_not_digit c hc) ?_ _) h4 hT ?_
  · rintro rfl; revert hc; decide
  · simp [lexIdent, hc, hsp]

/-- one keyword does not claim the beginning of a word that is not that keyword -/
theorem keyword_skipped (k w rest : List Char) (hkc : ∀ x ∈ k, isIdentChar x = true)
    (hw : ∀ x ∈ w, isWord x = true) (hb : ∀ x r, rest = x :: r → isIdentChar x = false) (hne : w ≠ k) :
    ∀ r, startsWith k (w ++ rest) = some r → boundary r = false := by
  intro r h
  rw [startsWith_some] at h
  rcases List.append_eq_append_iff.mp h with ⟨a', h1, h2⟩ | ⟨a', h1, h2⟩
  · -- k = w ++ a': the keyword is longer than the word, so `rest` continues it with an identifier character
    cases a' with
    | nil => simp at h1; exact absurd h1.symm hne
    | cons x a'' =>
      have hx : isIdentChar x = true := hkc x (by rw [h1]; simp)
      have := hb x (a'' ++ r) (by rw [h2]; rfl)
      rw [hx] at this; cases this
  · -- w = k ++ a': the word goes on with a word character: no boundary
    cases a' with
    | nil => simp at h1; exact absurd h1 hne
    | cons x a'' =>
      have hx : isWord x = true := hw x (by rw [h1]; simp)
      rw [h2]
      simp [boundary, hx]

theorem firstKeyword_none : ∀ (ks : List String) (w rest : List Char),
    (∀ k ∈ ks, ∀ x ∈ k.toList, isIdentChar x = true) → (∀ x ∈ w, isWord x = true) →
    (∀ x r, rest = x :: r → isIdentChar x = false) → (∀ k ∈ ks, w ≠ k.toList) →
    firstKeyword ks (w ++ rest) = none := by
  intro ks w rest hkc hw hb hne
  induction ks with
  | nil => rfl
  | cons k ks ih =>
    replace ih := ih (fun k' hk' => hkc k' (List.mem_cons_of_mem _ hk'))
      (fun k' hk' => hne k' (List.mem_cons_of_mem _ hk'))
    simp only [firstKeyword]
    cases hs : startsWith k.toList (w ++ rest) with
    | none => exact ih
    | some r =>
      have := keyword_skipped k.toList w rest (hkc k List.mem_cons_self) hw hb (hne k List.mem_cons_self) r hs
      simp [this, ih]

theorem keywords_ident_chars : ∀ k ∈ keywords, ∀ x ∈ k.toList, isIdentChar x = true := by decide +kernel

/-- a word (letters, digits, underscores, not starting with a digit) that is not a keyword and does not
    begin with `True` / `False` lexes to ONE identifier token carrying exactly that word (`lexOne_plain` with its keyword
    hypothesis derived from "is not a keyword") -/
theorem word_lexes_to_identifier (c : Char) (a rest : List Char) (hc : isIdentStart c = true)
    (hw : ∀ x ∈ c :: a, isWord x = true) (hb : ∀ x r, rest = x :: r → isIdentChar x = false)
    (hnk : ∀ k ∈ keywords, c :: a ≠ k.toList)
    (hT : firstPrefix ["True", "False"] (c :: a ++ rest) = none) :
    lexOne (c :: a ++ rest) = some (.ident (String.ofList (c :: a)), rest) := by
  refine lexOne_plain c a rest hc (fun x hx => ?_) hb ?_ hT
  · have := hw x (List.mem_cons_of_mem _ hx)
    simp only [isWord, isIdentChar, isIdentStart, Bool.or_eq_true] at this ⊢
    rcases this with (h | h) | h <;> simp [h]
  · exact firstKeyword_none keywords (c :: a) rest keywords_ident_chars hw hb hnk

theorem removeL_eq_map : ∀ cs : List Expr, removeL cs = cs.map removeBackticks := by
  intro cs
  induction cs with
  | nil => rfl
  | cons c cs ih => rw [removeL, ih, List.map_cons]

theorem removeK_eq_map : ∀ kw : List (Name × Expr), removeK kw = kw.map fun p => (p.1, removeBackticks p.2) := by
  intro kw
  induction kw with
  | nil => rfl
  | cons p kw ih => rw [removeK, ih, List.map_cons]

theorem remove_is_rename (e : Expr) : removeBackticks e = Fuse.renameExpr unquote e := by
  induction e using Expr.induction with
  | const c | var x => rfl
  | sum cs ih | prod cs ih | land cs ih | lor cs ih | min cs ih | max cs ih =>
    simp only [removeBackticks, Fuse.renameExpr, removeL_eq_map, Sem.renameL_eq_map, List.map_congr_left ih]
  | quot a b iha ihb | pow a b iha ihb | sub a b iha ihb | cmp _ a b iha ihb =>
    simp only [removeBackticks, Fuse.renameExpr, iha, ihb]
  | attr a _ iha | lnot a iha => simp only [removeBackticks, Fuse.renameExpr, iha]
  | call g args kw iha ihk =>
    have hk : (kw.map fun p => (p.1, removeBackticks p.2)) = kw.map fun p => (p.1, Fuse.renameExpr unquote p.2) :=
      List.map_congr_left fun p hp => by rw [ihk p hp]
    simp only [removeBackticks, Fuse.renameExpr, removeL_eq_map, removeK_eq_map, Sem.renameL_eq_map,
      Sem.renameK_eq_map, List.map_congr_left iha, hk]
  | ite c t e ihc iht ihe => simp only [removeBackticks, Fuse.renameExpr, ihc, iht, ihe]

theorem removeL_is_rename : ∀ cs : List Expr, removeL cs = Fuse.renameL unquote cs := fun cs => by
  rw [removeL_eq_map, Sem.renameL_eq_map]
  exact List.map_congr_left fun c _ => remove_is_rename c
theorem removeK_is_rename : ∀ cs : List (Name × Expr), removeK cs = Fuse.renameK unquote cs := fun cs => by
  rw [removeK_eq_map, Sem.renameK_eq_map]
  exact List.map_congr_left fun p _ => by rw [remove_is_rename]
/-- the variables of the result are the unquoted variables of the input, occurrence by occurrence -/
theorem remove_vars (e : Expr) : Sem.depVars (removeBackticks e) = (Sem.depVars e).map unquote := by
  rw [remove_is_rename]; exact Fuse.depVars_rename unquote e

/-- non-vacuity: `` `<state>y`[`i`] + `a:b` `` -/
example : (removeBackticks (.sum [.sub (.var "`<state>y`") (.var "`i`"), .var "`a:b`"])).beq
    (.sum [.sub (.var "<state>y") (.var "i"), .var "a:b"]) = true := by decide +kernel
example : parseName "`<state>y`" = .ok "<state>y" := quoted_name_denotes "<state>y".toList (by decide)
example : parseName "<state>y" = .ok "<state>y" := by decide +kernel
example : parseName "<dt>" = .ok "<dt>" := by decide +kernel

end Dagrt.C19
