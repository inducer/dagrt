import Dagrt.Proofs.WrapProofs
/-!
# C20 — line wrapping of generated code changes layout only

Model: `Dagrt.Wrap` (`Model/Wrap.lean`) = `split_outside_quotes` (the quote-aware splitter that
replaced `shlex.split(posix=False)` in a `fix:` commit) and `wrap_line_base` with `pad_python` /
`pad_fortran`.  Theorems are for every line, indentation level, width, marker and escape
character; the indentation string is any non-empty run of blanks (4 for Python, 1 for Fortran).
-/
namespace Dagrt.C20
open Dagrt.Wrap

/-- the lines' token lists, concatenated, are exactly the input tokens: no token is dropped,
    duplicated, reordered or split — in particular no quoted string, since a quoted string never
    extends beyond one token (`split_tokens_ok`) -/
theorem chunks_partition (width il cl : Nat) (toks : List Tok) :
    (chunks width il cl toks).flatten = toks := by
  cases toks with
  | nil => simp [chunks]
  | cons w ws => simp [chunks, chunkLoop_flatten]

theorem chunks_nonempty (width il cl : Nat) (toks : List Tok) (h : toks ≠ []) :
    ∀ c ∈ chunks width il cl toks, c ≠ [] := by
  cases toks with
  | nil => exact absurd rfl h
  | cons w ws => exact chunkLoop_nonempty width il cl ws [w] _ [] (by simp) (by simp)

/-- every produced line that holds more than one token fits the width, counted from the indentation
    `il` of the level: the text of a continued line is strictly shorter than `width - il` (room
    for the marker), that of the final line may be exactly that long.  The witness `pre` (0 or the
    continuation indentation) is not tied to the line: nothing is claimed here about the
    continuation indentation of a particular line, nor about lines of a single token -/
theorem width_respected (width il cl : Nat) (toks : List Tok) :
    ∃ last more, chunks width il cl toks = more ++ [last] ∧
      (∀ c ∈ more, 2 ≤ c.length → ∃ pre, (pre = 0 ∨ pre = cl) ∧ il + pre + (joinWords c).length < width) ∧
      (2 ≤ last.length → ∃ pre, (pre = 0 ∨ pre = cl) ∧ il + pre + (joinWords last).length ≤ width) := by
  cases toks with
  | nil => exact ⟨[], [], by simp [chunks], by simp, by simp⟩
  | cons w ws =>
    exact chunkLoop_width width il cl (fun p => p = 0 ∨ p = cl) (.inr rfl) ws [w] w.length 0 [] (.inl rfl) (by simp)
      (by simp [joinWords])
      (by intro h; simp at h)

/-- a padded line of text length `< padw` is exactly `padw` long, marker included -/
theorem padded_line_length (marker : Char) (line : List Char) (padw : Nat) (h : line.length < padw) :
    (pad marker line padw).length = padw := by
  simp only [pad, List.length_append, List.length_replicate, List.length_cons, List.length_nil]
  omega

/-- every token the splitter produces is well-formed: tokenised on its own it is one token with no
    quote left open — so a quoted string (even one that starts in the middle of a word) lies
    inside a single token -/
theorem split_tokens_wellformed (esc : Option Char) (line : List Char) (toks : List Tok)
    (h : split esc line = .ok toks) : ∀ t ∈ toks, TokOK esc t := split_tokens_ok esc line toks h

/-- **Re-tokenisation.** Joining the wrapped lines with their continuation markers removed and
    tokenising again gives exactly the tokens of the input line — for every width, level, marker. -/
theorem retokenise (marker : Char) (esc : Option Char) (line : List Char) (level width : Nat)
    (indent : List Char) (hi1 : indent ≠ []) (hi2 : ∀ c ∈ indent, c = ' ')
    (lines : List (List Char)) (h : wrapLine marker esc line level width indent = .ok lines) :
    ∃ toks, split esc line = .ok toks ∧ split esc (unwrap lines) = .ok toks := by
  unfold wrapLine at h
  cases hs : split esc line with
  | error e => simp [hs] at h
  | ok toks =>
    simp [hs] at h
    refine ⟨toks, rfl, ?_⟩
    subst h
    have hok := split_tokens_ok esc line toks hs
    cases toks with
    | nil => simp [wrapToks, chunks, renderLines, unwrap, lineText, joinWords, split, lexRun, LS.init]
    | cons w ws =>
      have hsp : AllSpace indent := by intro c hc; rw [hi2 c hc]; decide
      have hne : chunks width (level * indent.length) indent.length (w :: ws) ≠ [] := by
        obtain ⟨last, more, h, _⟩ := width_respected width (level * indent.length) indent.length (w :: ws)
        rw [h]; simp
      obtain ⟨txt, htxt, hspaced⟩ := unwrap_render_spaced marker (width - level * indent.length) indent
        hi1 hsp _ true hne (chunks_nonempty _ _ _ _ (by simp))
      rw [chunks_partition] at hspaced
      unfold wrapToks
      simp only
      rw [htxt]
      exact split_spaced esc hspaced hok

/-- a line whose quotes are not closed is refused (the documented `ValueError`), never wrapped -/
theorem open_quote_rejected (marker : Char) (esc : Option Char) (line : List Char) (level width : Nat)
    (indent : List Char) (q : Char) (h : (lexRun esc LS.init line).quote = some q) :
    wrapLine marker esc line level width indent = .error .noClosingQuotation := by
  simp [wrapLine, split, h]

/-! non-vacuity: the line that the pinned tree broke inside the literal -/
example : split none "x = f('a  b')".toList = .ok ["x".toList, "=".toList, "f('a  b')".toList] := by decide +kernel
example : wrapLine '\\' (some '\\') "x = f('a  b') + yy".toList 1 14 "    ".toList =
    .ok ["x =      \\".toList, "    f('a  b')\\".toList, "    + yy".toList] := by decide +kernel

end Dagrt.C20
