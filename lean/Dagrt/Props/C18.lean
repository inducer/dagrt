import Dagrt.Proofs.HoistProofs
/-!
# C18 — constant hoisting preserves value and hoists only constants

Model: `Dagrt.Hoist` (`Model/Hoist.lean`) = `collapse_constants` with `_ConstantFindingMapper`
and `_ExpressionCollapsingMapper` (incl. the regrouping of sums and products into constants and
non-constants).  Semantics `evalZ`: integer valuations of the variables, arbitrary
interpretation `F` of function symbols (and of every non-arithmetic operator), sums/products as
folds.  The value theorem uses commutativity and associativity of `+` and `*` on the integers —
the property's claim is for commutative arithmetic.  Hypothesis `NoH e`: the fresh-variable
supply `h0, h1, …` is really fresh (no such variable occurs in the input).
-/
namespace Dagrt.C18
open Dagrt Dagrt.Hoist

/-- the environment after executing the hoisted assignments (each right-hand side is an original
    sub-expression, evaluated in the original environment) -/
def extend (ρ : Env) (F : FunI) (as : List (Name × Expr)) : Env := fun x =>
  match as.find? (fun p => p.1 == x) with
  | some p => evalZ ρ F p.2
  | none => ρ x

/-- `Good` for the whole run, unpacked: the run starts from the empty state, so the assignments
    are exactly the appended ones and the names count from `h0` -/
theorem collapse_good (free : List Name) (ρ : Env) (F : FunI) (e : Expr) (hn : NoH e) :
    (∃ n, (collapse free e).2.map (·.1) = (List.range n).map hname) ∧
    (∀ p ∈ (collapse free e).2, isConst free p.2 = true ∧ NoH p.2) ∧
    ∀ ρ₂ : Env, (∀ x, NotH x → ρ₂ x = ρ x) → (∀ p ∈ (collapse free e).2, ρ₂ p.1 = evalZ ρ F p.2) →
      evalZ ρ₂ F (collapse free e).1 = evalZ ρ F e := by
  obtain ⟨new, h1, _, h3, h4, h5⟩ := collapseG_good free ρ F true e ⟨0, []⟩ hn
  have h1 : (collapse free e).2 = new := (List.nil_append new ▸ h1 :)
  rw [h1]
  exact ⟨⟨_, by rw [h3, List.range_eq_range']⟩, h4, h5⟩

/-- every new variable is assigned exactly once: the assigned names are `h0 … h(n-1)`, pairwise
    different -/
theorem assigned_once (free : List Name) (e : Expr) (hn : NoH e) :
    ∃ n, (collapse free e).2.map (·.1) = (List.range n).map hname ∧
      ((collapse free e).2.map (·.1)).Nodup := by
  obtain ⟨⟨n, h⟩, _⟩ := collapse_good free (fun _ => 0) (fun _ _ _ => 0) e hn
  exact ⟨n, h, by rw [h, List.range_eq_range']; exact nodup_hnames _ _⟩

/-- no hoisted sub-expression mentions a free variable (function symbols count as variables) -/
theorem hoisted_closed (free : List Name) (e : Expr) (hn : NoH e) :
    ∀ p ∈ (collapse free e).2, isConst free p.2 = true :=
  fun p hp => ((collapse_good free (fun _ => 0) (fun _ _ _ => 0) e hn).2.1 p hp).1

/-- `isConst` means what it says for variables: no variable of the expression is free -/
theorem isConst_no_free_var (free : List Name) : ∀ e : Expr, isConst free e = true → ∀ x ∈ vars e, x ∉ free := by
  intro e
  induction e using Expr.induction with
  | const c => simp [vars]
  | var y => simp [vars, isConst]
  | sum cs ih | prod cs ih | land cs ih | lor cs ih | min cs ih | max cs ih =>
    simp only [isConst, vars, allConst_iff, mem_varsL]
    rintro h x ⟨c, hc, hx⟩
    exact ih c hc (h c hc) x hx
  | quot a b iha ihb | pow a b iha ihb | sub a b iha ihb | cmp o a b iha ihb =>
    simp only [isConst, vars, Bool.and_eq_true, List.mem_append]
    rintro ⟨ha, hb⟩ x (hx | hx)
    · exact iha ha x hx
    · exact ihb hb x hx
  | attr a n ih | lnot a ih => simpa [isConst, vars] using ih
  | ite c t e ihc iht ihe =>
    simp only [isConst, vars, Bool.and_eq_true, List.mem_append]
    rintro ⟨⟨hc, ht⟩, he⟩ x ((hx | hx) | hx)
    · exact ihc hc x hx
    · exact iht ht x hx
    · exact ihe he x hx
  | call f args kw iha ihk =>
    simp only [isConst, vars, Bool.and_eq_true, List.mem_append, allConst_iff, allConstK_iff, mem_varsL, mem_varsK]
    rintro ⟨⟨_, ha⟩, hk⟩ x (⟨c, hc, hx⟩ | ⟨p, hp, hx⟩)
    · exact iha c hc (ha c hc) x hx
    · exact ihk p hp (hk p hp) x hx

theorem find?_key {l : List (Name × Expr)} {p : Name × Expr} (hnd : (l.map (·.1)).Nodup) (hp : p ∈ l) :
    l.find? (fun q => q.1 == p.1) = some p := by
  induction l with
  | nil => cases hp
  | cons q qs ih =>
    rw [List.map_cons, List.nodup_cons] at hnd
    rcases List.mem_cons.mp hp with rfl | hp
    · simp
    · have : q.1 ≠ p.1 := fun h => hnd.1 (h ▸ List.mem_map_of_mem hp)
      simp [this, ih hnd.2 hp]

/-- **Value preservation.** Evaluating the rewritten expression in the valuation extended by the
    hoisted assignments equals evaluating the original — for every valuation and every
    interpretation of the function symbols. -/
theorem value_preserved (free : List Name) (e : Expr) (hn : NoH e) (ρ : Env) (F : FunI) :
    evalZ (extend ρ F (collapse free e).2) F (collapse free e).1 = evalZ ρ F e := by
  obtain ⟨n, hnames, hnd⟩ := assigned_once free e hn
  apply (collapse_good free ρ F e hn).2.2
  · intro x hx
    have : (collapse free e).2.find? (fun p => p.1 == x) = none := by
      rw [List.find?_eq_none]
      intro p hp heq
      have hk : p.1 ∈ (List.range n).map hname := hnames ▸ List.mem_map_of_mem hp
      obtain ⟨k, _, hk⟩ := List.mem_map.mp hk
      exact hx k (by rw [← beq_iff_eq.mp heq, hk])
    simp only [extend, this]
  · intro p hp
    simp only [extend, find?_key hnd hp]

theorem atoms_unchanged (free : List Name) (x : Name) (c : Const) :
    collapse free (.var x) = (.var x, []) ∧ collapse free (.const c) = (.const c, []) := ⟨rfl, rfl⟩

/-! non-vacuity: `(2 + y) * x + f(2) * 3` with `x` free hoists `2 + y` … and `f(2) * 3` -/
example : collapse ["x"] (.sum [.prod [.sum [.const (.int 2), .var "y"], .var "x"],
      .prod [.call "f" [.const (.int 2)] [], .const (.int 3)]]) =
    (.sum [.var "h1", .prod [.var "h0", .var "x"]],
     [("h0", .sum [.const (.int 2), .var "y"]),
      ("h1", .prod [.call "f" [.const (.int 2)] [], .const (.int 3)])]) := by rfl

end Dagrt.C18
