import Dagrt.Proofs.ControllerProofs
/-!
# C04 — each step runs every statement of the phase once, after its dependencies

Model: `Dagrt.Controller` (`Model/Controller.lean`) = `ExecutionController.reset /
update_plan / __call__`.  Dependencies are iterated in an arbitrary (given) order, the
target is an arbitrary function from statements to {guard false, executed (with any list of
dynamically requested statements), abort}: the theorems therefore cover every iteration
order of the dependency sets, every guard valuation, every abort point and every sequence
of dynamic plan updates.  `WF g n r` is a hypothesis: dependencies resolve within the phase and `r` is a
rank function bounded by the number of statements.  (`C10.accept_implies_consumers_safe` gives, for
every accepted method, resolved look-ups and a rank function; the bound is not derived from it.)
-/
namespace Dagrt.C04
open Dagrt.Controller

/-- the plan invariant (no duplicates, disjoint from what was executed, every planned
    statement has its dependencies executed or planned earlier) survives every plan update,
    which never fails on a well-formed phase; requested statements end up executed or in the
    new front part `e`, ahead of everything planned before -/
theorem update_plan_preserves_invariant {g : Graph} {r : Nat → Nat} {n : Nat} (wf : WF g n r)
    {s : St} (hi : Inv g s) (ids : List Nat) (hids : ∀ i ∈ ids, (g i).isSome) :
    ∃ s' e, updatePlan g n s ids = .ok s' ∧ Inv g s' ∧ s'.executed = s.executed ∧
      s'.plan = e ++ s.plan.filter (fun x => decide (x ∉ e)) ∧
      (∀ i ∈ ids, i ∈ s.executed ∨ i ∈ e) := by
  unfold updatePlan
  obtain ⟨u', hok, hspec⟩ := addList_spec (ex := s.executed) wf (n + 1) { plan := s.plan, early := [] } ids n
    hi.nodup (fun d hd => ⟨hids d hd, by have := wf.bound d (hids d hd); omega, wf.bound d (hids d hd)⟩)
  rw [hok]
  obtain ⟨e, he1, he2, he3, he4, he5, he6, he7⟩ := hspec.ext
  simp at he1 he2
  refine ⟨_, e, rfl, ?_, rfl, by simp [he1, he2], ?_⟩
  · have hE : DepsFirst g s.executed e := by
      have := hspec.earlyOK (depsFirst_nil g s.executed); rwa [he1] at this
    refine ⟨?_, ?_, ?_, ?_⟩
    · simp only [he1, he2]
      rw [List.nodup_append]
      refine ⟨he6, hi.nodup.filter _, ?_⟩
      intro a ha b hb e'; subst e'
      simp at hb; exact hb.2 ha
    · rw [he1, he2]
      exact List.forall_mem_append.mpr ⟨he4, fun x hx => hi.disj x (List.mem_filter.mp hx).1⟩
    · rw [he1, he2]
      -- what the old plan relied on there and loses to the filter is now in `e`, ahead of it
      exact depsFirst_append hE (depsFirst_filter _ hi.depsFirst fun x _ hx => by simpa using hx)
        fun _ => List.mem_append.mp
    · rw [he1, he2]
      exact List.forall_mem_append.mpr ⟨he7, fun x hx => hi.known x (List.mem_filter.mp hx).1⟩
  · intro i hi'
    have := hspec.reached i hi'
    rwa [he1] at this

/-- the statement about to be visited has all its dependencies visited, and was not visited before -/
theorem popped_statement_ready {g : Graph} {x : Nat} {rest ex : List Nat}
    (hi : Inv g { plan := x :: rest, executed := ex }) :
    Inv g { plan := rest, executed := x :: ex } ∧ (∀ d ∈ depsOf g x, d ∈ ex) ∧ x ∉ ex := by
  obtain ⟨hnd, hdisj, hdf, hk⟩ := hi
  simp only at hnd hdisj hdf hk
  have ⟨hx, hnd'⟩ := List.nodup_cons.mp hnd
  obtain ⟨hdeps, hdf'⟩ := depsFirst_cons.mp hdf
  refine ⟨⟨hnd', ?_, hdf', fun y hy => hk y (by simp [hy])⟩, hdeps, hdisj x (by simp)⟩
  intro y hy; simp; exact ⟨fun e => hx (e ▸ hy), hdisj y (by simp [hy])⟩

end Dagrt.C04

namespace Dagrt.Controller

/-- invariant of the pop-execute loop (it stands here, not with the plan lemmas, because `loop_pop` and
    `runLoop_spec` use the two theorems above).  `cov`: the statements that have to end up visited —
    `range n` for a whole step, `[]` where only `LogOK` is wanted. -/
structure LoopInv (g : Graph) (cov : List Nat) (s : St) (log : List Nat) : Prop where
  inv : Inv g s
  exec_eq : ∀ x, x ∈ s.executed ↔ x ∈ log
  logOK : LogOK g log
  logKnown : ∀ x ∈ log, (g x).isSome
  cover : ∀ i ∈ cov, i ∈ s.plan ∨ i ∈ log

theorem loop_pop {g : Graph} {cov : List Nat} {x : Nat} {rest ex log : List Nat}
    (h : LoopInv g cov { plan := x :: rest, executed := ex } log) :
    LoopInv g cov { plan := rest, executed := x :: ex } (log ++ [x]) := by
  obtain ⟨hi, he, ⟨hlnd, hldf⟩, hlk, hcov⟩ := h
  obtain ⟨hi', hdeps, hx⟩ := C04.popped_statement_ready hi
  refine ⟨hi', ?_, ⟨?_, ?_⟩, ?_, ?_⟩
  · intro y; simp; rw [← he y]; simp; exact Or.comm
  · rw [List.nodup_append]; refine ⟨hlnd, by simp, ?_⟩
    intro a ha b hb; simp at hb; subst hb; intro e; subst e
    exact hx ((he a).mpr ha)
  · apply depsFirst_append_singleton hldf
    intro d hd; right; exact (he d).mp (hdeps d hd)
  · intro y hy; simp at hy; rcases hy with h | h
    · exact hlk y h
    · subst h; exact hi.known y (by simp)
  · intro i hi''
    rcases hcov i hi'' with h | h
    · simp at h; rcases h with h | h
      · right; simp [h]
      · left; exact h
    · right; simp [h]

theorem runLoop_spec {g : Graph} {r : Nat → Nat} {n : Nat} (wf : WF g n r) (target : Nat → Action)
    (htarget : ∀ x req, target x = .run req → ∀ i ∈ req, (g i).isSome)
    (cov : List Nat) :
    ∀ (fuel : Nat) (s : St) (log : List Nat), LoopInv g cov s log →
      ∃ log' s', runLoop g n target fuel s log = .ok (log', s') ∧ LoopInv g cov s' log' ∧
        ((∀ x, target x ≠ .abort) → n < fuel + log.length → (∀ i, (g i).isSome → i < n) → s'.plan = []) := by
  intro fuel
  induction fuel with
  | zero =>
    intro s log h
    refine ⟨log, s, rfl, h, fun _ hf hb => ?_⟩
    -- the log has no duplicates and only known ids, so it cannot be longer than n
    have hsub : log ⊆ List.range n := fun x hx => List.mem_range.mpr (hb x (h.logKnown x hx))
    have := List.Nodup.length_le_of_subset h.logOK.1 hsub
    rw [List.length_range] at this
    omega
  | succ fuel ih =>
    rintro ⟨_ | ⟨x, rest⟩, ex⟩ log h
    · exact ⟨log, _, rfl, h, fun _ _ _ => rfl⟩
    have h1 := loop_pop h
    -- however the plan is updated, the loop goes on with one unit of fuel less and `x` logged
    have cont : ∀ s2, LoopInv g cov s2 (log ++ [x]) →
        ∃ log' s', runLoop g n target fuel s2 (log ++ [x]) = .ok (log', s') ∧ LoopInv g cov s' log' ∧
          ((∀ x, target x ≠ .abort) → n < fuel + 1 + log.length → (∀ i, (g i).isSome → i < n) → s'.plan = []) :=
      fun s2 h2 => by
        obtain ⟨log', s', hok, hinv, hfin⟩ := ih s2 _ h2
        exact ⟨log', s', hok, hinv, fun ha hf hb => hfin ha (by rw [List.length_append]; simpa using by omega) hb⟩
    cases ht : target x with
    | skip =>
      simp only [runLoop, ht]
      exact cont _ h1
    | abort =>
      simp only [runLoop, ht]
      exact ⟨_, _, rfl, h1, fun ha => absurd ht (ha x)⟩
    | run req =>
      cases req with
      | nil =>
        simp only [runLoop, ht]
        exact cont _ h1
      | cons q qs =>
        obtain ⟨s2, e, hup, hinv2, hex2, hplan2, -⟩ :=
          C04.update_plan_preserves_invariant wf h1.inv (q :: qs) (htarget x (q :: qs) ht)
        simp only [runLoop, ht, hup]
        refine cont s2 ⟨hinv2, fun y => by rw [hex2]; exact h1.exec_eq y, h1.logOK, h1.logKnown, fun i hi => ?_⟩
        refine (h1.cover i hi).imp_left fun h' => ?_
        rw [hplan2]
        by_cases hie : i ∈ e
        · exact List.mem_append_left _ hie
        · exact List.mem_append_right _ (List.mem_filter.mpr ⟨h', by simpa using hie⟩)

theorem reset_inv (g : Graph) : Inv g reset :=
  ⟨by simp [reset], by simp [reset], depsFirst_nil _ _, by simp [reset]⟩

end Dagrt.Controller

namespace Dagrt.C04
open Dagrt.Controller

/-- with the phase's sinks as roots, the initial plan contains every statement -/
theorem initial_plan_complete {g : Graph} {r : Nat → Nat} {n : Nat} (wf : WF g n r) (roots : List Nat)
    (hk : ∀ i ∈ roots, (g i).isSome)
    (hsinks : ∀ i, (g i).isSome → (∀ j, i ∉ depsOf g j) → i ∈ roots) :
    ∃ s0, updatePlan g n reset roots = .ok s0 ∧ Inv g s0 ∧ s0.executed = [] ∧
      ∀ i, (g i).isSome → i ∈ s0.plan := by
  obtain ⟨s0, e, hok, hinv, hex, hplan, hreach⟩ := update_plan_preserves_invariant wf (reset_inv g) roots hk
  refine ⟨s0, hok, hinv, hex, ?_⟩
  have hclosed : ∀ j ∈ s0.plan, ∀ d ∈ depsOf g j, d ∈ s0.plan := by
    intro j hj d hd
    obtain ⟨pre, post, hsplit⟩ := List.append_of_mem hj
    rcases hinv.depsFirst pre j post hsplit d hd with h | h
    · rw [hex] at h; cases h
    · rw [hsplit]; exact List.mem_append_left _ h
  -- every node of a finite acyclic graph lies below a sink: induction on `n - r i`
  have key : ∀ k i, (g i).isSome → n - r i ≤ k → i ∈ s0.plan := by
    intro k
    induction k with
    | zero =>
      intro i hi hle
      have := wf.bound i hi
      omega
    | succ k ih =>
      intro i hi hle
      by_cases hs : ∃ j, i ∈ depsOf g j
      · obtain ⟨j, hj⟩ := hs
        have hjk : (g j).isSome := Option.isSome_iff_ne_none.mpr fun h0 => by simp [depsOf, h0] at hj
        have hr := wf.decr j i hj
        exact hclosed j (ih j hjk (by omega)) i hj
      · rw [hplan]
        exact List.mem_append_left _ ((hreach i (hsinks i hi fun j hj => hs ⟨j, hj⟩)).resolve_left List.not_mem_nil)
  intro i hi
  exact key n i hi (by omega)

/-- One whole step, for every guard valuation / abort point / sequence of dynamic requests
    (`target`) and every iteration order: the controller never fails, the visit log has no
    duplicates, every statement is visited only after all statements it depends on, and — when
    nothing aborts the step and the roots include the sinks — every statement of the phase is
    visited (exactly once) and the plan is empty at the end. -/
theorem visit_once_deps_first {g : Graph} {r : Nat → Nat} {n : Nat} (wf : WF g n r)
    (hn : ∀ i, (g i).isSome ↔ i < n)
    (roots : List Nat) (hk : ∀ i ∈ roots, (g i).isSome)
    (hsinks : ∀ i, (g i).isSome → (∀ j, i ∉ depsOf g j) → i ∈ roots)
    (target : Nat → Action)
    (htarget : ∀ x req, target x = .run req → ∀ i ∈ req, (g i).isSome) :
    ∃ log s', step g n roots target = .ok (log, s') ∧ LogOK g log ∧
      ((∀ x, target x ≠ .abort) → s'.plan = [] ∧ ∀ i, i < n → i ∈ log) := by
  obtain ⟨s0, hok, hinv, hex, hall⟩ := initial_plan_complete wf roots hk hsinks
  unfold step
  rw [hok]
  simp only
  have hloop : LoopInv g (List.range n) s0 [] := by
    refine ⟨hinv, by intro x; simp [hex], ⟨by simp, depsFirst_nil _ _⟩, by simp, ?_⟩
    intro i hi; left; simp at hi; exact hall i ((hn i).mpr hi)
  obtain ⟨log', s', hrun, hinv', hfin⟩ := runLoop_spec wf target htarget (List.range n) (n + 1) s0 [] hloop
  refine ⟨log', s', hrun, hinv'.logOK, ?_⟩
  intro hna
  have hp := hfin hna (by simp) (fun i hi => (hn i).mp hi)
  refine ⟨hp, ?_⟩
  intro i hi
  rcases hinv'.cover i (by simp [hi]) with h | h
  · rw [hp] at h; simp at h
  · exact h

/-- a step that is cut short (failure, switch, error) still visits only a duplicate-free,
    dependency-closed prefix order: `LogOK` holds for every target, aborting or not -/
theorem abort_prefix {g : Graph} {r : Nat → Nat} {n : Nat} (wf : WF g n r)
    (roots : List Nat) (hk : ∀ i ∈ roots, (g i).isSome)
    (target : Nat → Action)
    (htarget : ∀ x req, target x = .run req → ∀ i ∈ req, (g i).isSome) :
    ∃ log s', step g n roots target = .ok (log, s') ∧ LogOK g log := by
  obtain ⟨s0, e, hok, hinv, hex, _, _⟩ := C04.update_plan_preserves_invariant wf (reset_inv g) roots hk
  unfold step
  rw [hok]
  simp only
  have hloop : LoopInv g [] s0 [] :=
    ⟨hinv, by intro x; simp [hex, reset], ⟨by simp, depsFirst_nil _ _⟩, by simp, by simp⟩
  obtain ⟨log', s', hrun, hinv', _⟩ := runLoop_spec wf target htarget [] (n + 1) s0 [] hloop
  exact ⟨log', s', hrun, hinv'.logOK⟩

/-! non-vacuity: a diamond with a dynamic request, iteration order ≠ id order -/
def exG : Graph := fun i => [[], [0], [0], [2, 1]][i]?
def exTarget : Nat → Action := fun i => if i = 0 then .run [3] else if i = 1 then .skip else .run []
example : step exG 4 [3] exTarget = .ok ([0, 2, 1, 3], { plan := [], executed := [3, 1, 2, 0] }) := by decide
example : WF exG 4 (fun i => i) := by
  have known : ∀ i, (exG i).isSome ↔ i < 4 := fun i => by simp [exG]
  have back : ∀ i, ∀ d ∈ depsOf exG i, d < i := by
    intro i d h
    match i, h with
    | 0, h => simp [depsOf, exG] at h
    | 1, h | 2, h | 3, h =>
      simp [depsOf, exG] at h
      omega
    | k+4, h => simp [depsOf, exG] at h
  refine ⟨fun i hi d hd => ?_, back, fun i hi => (known i).mp hi⟩
  have := back i d hd
  have := (known i).mp hi
  exact (known d).mpr (by omega)
end Dagrt.C04
