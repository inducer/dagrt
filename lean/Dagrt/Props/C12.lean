import Dagrt.Model.Refcount
/-!
# C12 — generated Fortran never leaks, double-frees or uses freed user-type storage

Model: `Dagrt.Refcount` (`Model/Refcount.lean`) = the reference-count protocol the generated module
implements: `dagrt_alloc_check_T` (copy-on-write: a shared block is left to the others and a fresh
one taken), `dagrt_deinit_T`, the move emitted for `v <- w`.  The model is compared on every run
with the REAL emitted routines, compiled by gfortran and driven through random operation sequences
(association status, reference counts and aliasing after every operation).

Proved, for every sequence of operations on any number of pointer variables that the model runs to
the end (`run … = .ok h`; a run stops with an error at a move onto itself, a move from a
disassociated pointer or an undeclared variable, and nothing is said about what follows):
* `Inv`: the reference-count cell of a block always equals the number of pointer variables bound to
  it, and blocks that were never allocated have none;
* hence a bound variable always points to live storage (no use of freed storage through a bound
  variable), storage is deallocated only when exactly one variable is bound to it — so never twice,
  and never while another variable still uses it;
* after releasing every variable (what the exit label of every phase subroutine and `shutdown` do,
  after the `fix:` commit for ALL user-type locals) no block is live: nothing leaks;
* with the ghost counter `frees` of executed `deallocate` statements: deallocations + live blocks
  = allocations (`Good`), so after releasing every variable there were as many deallocations as
  allocations.  "Every block is released exactly once" is this count together with the two items
  above; it is not stated block by block.
Which operations the generator places where (allocation check before a write, move on plain
assignment, releases at last uses and at the exit label) is NOT modelled; whole methods are run
under AddressSanitizer/LeakSanitizer on every run (oracle).
-/
namespace Dagrt.C12
open Dagrt.Refcount

structure Inv (h : Heap) : Prop where
  counts : ∀ b, h.rc b = h.vars.count (some b)
  fresh : ∀ b, b ≥ h.next → h.rc b = 0

/-- Variable `i` changes from `old` to `new`; the counts follow (`hrc`: the block that loses the
    variable gives one up, the block that gains it takes one) -/
theorem set_inv {h : Heap} (inv : Inv h) {i : Nat} {old : Option Nat} (hv : h.vars[i]? = some old)
    (new : Option Nat) {rc' : Nat → Nat} {next' : Nat} (frees' : Nat)
    (hrc : ∀ x, rc' x + (if old = some x then 1 else 0) = h.rc x + (if new = some x then 1 else 0))
    (hfresh : ∀ x, x ≥ next' → rc' x = 0) : Inv ⟨rc', next', h.vars.set i new, frees'⟩ := by
  obtain ⟨hi, hg⟩ := List.getElem?_eq_some_iff.mp hv
  refine ⟨fun x => ?_, hfresh⟩
  have hle : (if old = some x then 1 else 0) ≤ h.vars.count (some x) := by
    split
    · rename_i e
      exact List.count_pos_iff.mpr (e ▸ List.mem_of_getElem? hv)
    · exact Nat.zero_le _
  have := hrc x
  have := inv.counts x
  simp only [List.count_set hi, hg, beq_iff_eq]
  omega

/-- a bound pointer variable points to live, allocated storage -/
theorem bound_is_live {h : Heap} (inv : Inv h) {i b : Nat} (hv : h.vars[i]? = some (some b)) :
    1 ≤ h.rc b ∧ b < h.next := by
  have hpos : 0 < h.vars.count (some b) := List.count_pos_iff.mpr (List.mem_of_getElem? hv)
  have := inv.counts b
  have := inv.fresh b
  omega

/-! ### "released exactly once": counting the deallocations

`frees` is a ghost counter of executed `deallocate` statements (`deinit` raises it exactly when it
deallocates).  Invariant: deallocations so far + live blocks = blocks allocated so far.  With
`free_only_last_reference` (a deallocated block has count 0 and no variable bound to it, so it can
never be reached by a `deinit` again) this is "every allocated block is released exactly once" once
no block is live. -/

/-- number of live blocks among the first `n` (`min 1 c` is 1 for a positive count cell, else 0) -/
def live (rc : Nat → Nat) : Nat → Nat
  | 0 => 0
  | n + 1 => live rc n + min 1 (rc n)

theorem live_update (rc : Nat → Nat) (b v : Nat) : ∀ n,
    live (fun x => if x = b then v else rc x) n + (if b < n then min 1 (rc b) else 0) =
      live rc n + (if b < n then min 1 v else 0) := by
  intro n
  induction n with
  | zero => rfl
  | succ n ih =>
    simp only [live]
    by_cases hb : n = b
    · subst hb
      simp only [Nat.lt_irrefl, Nat.lt_succ_self, if_true, if_false] at ih ⊢
      omega
    · have hlt : b < n + 1 ↔ b < n := by omega
      simp only [hb, hlt, if_false]
      omega

structure Good (h : Heap) : Prop extends Inv h where
  accounted : h.frees + live h.rc h.next = h.next

/-- variable `i`, bound to `b`, gives up its reference (`deallocate` iff it was the last) -/
def release (h : Heap) (i b : Nat) : Heap :=
  ⟨fun x => if x = b then h.rc b - 1 else h.rc x, h.next, h.vars.set i none,
    h.frees + (if h.rc b = 1 then 1 else 0)⟩

/-- the disassociated variable `i` takes a further reference to the live block `b` -/
def share (h : Heap) (i b : Nat) : Heap :=
  ⟨fun x => if x = b then h.rc b + 1 else h.rc x, h.next, h.vars.set i (some b), h.frees⟩

theorem release_inv {h : Heap} (inv : Inv h) {i b : Nat} (hv : h.vars[i]? = some (some b)) :
    Inv (release h i b) := by
  obtain ⟨hlive, hblt⟩ := bound_is_live inv hv
  refine set_inv inv hv none _ (fun x => ?_) (fun x hx => ?_)
  · by_cases hxb : x = b
    · subst hxb
      simp only [if_true, if_false, reduceCtorEq]
      omega
    · simp only [hxb, Ne.symm hxb, if_false, Option.some.injEq, reduceCtorEq]
  · have := inv.fresh x hx
    split
    · subst x
      omega
    · exact this

theorem share_inv {h : Heap} (inv : Inv h) {i j b : Nat} (hv : h.vars[i]? = some none)
    (hj : h.vars[j]? = some (some b)) : Inv (share h i b) := by
  obtain ⟨_, hblt⟩ := bound_is_live inv hj
  refine set_inv inv hv (some b) _ (fun x => ?_) (fun x hx => ?_)
  · by_cases hxb : x = b
    · subst hxb
      simp only [if_true, if_false, reduceCtorEq]
    · simp only [hxb, Ne.symm hxb, if_false, Option.some.injEq, reduceCtorEq]
  · have : x ≠ b := by omega
    simp only [this, if_false]
    exact inv.fresh x hx

theorem alloc_inv {h : Heap} (inv : Inv h) {i : Nat} (hv : h.vars[i]? = some none) : Inv (h.alloc i) := by
  have hnext := inv.fresh h.next (Nat.le_refl _)
  refine set_inv inv hv (some h.next) _ (fun x => ?_) (fun x hx => ?_)
  · by_cases hxn : x = h.next
    · subst hxn
      simp only [if_true, if_false, reduceCtorEq]
      omega
    · simp only [hxn, Ne.symm hxn, if_false, Option.some.injEq, reduceCtorEq]
  · have : x ≠ h.next := by omega
    simp only [this, if_false]
    exact inv.fresh x (by omega)

theorem release_good {h : Heap} (g : Good h) {i b : Nat} (hv : h.vars[i]? = some (some b)) :
    Good (release h i b) := by
  obtain ⟨hlive, hblt⟩ := bound_is_live g.toInv hv
  refine ⟨release_inv g.toInv hv, ?_⟩
  have hl := live_update h.rc b (h.rc b - 1) h.next
  rw [if_pos hblt, if_pos hblt, Nat.min_eq_left hlive] at hl
  have := g.accounted
  simp only [release]
  split
  · omega     -- the last reference: one live block fewer, one deallocation more
  · omega     -- the block stays live

theorem share_good {h : Heap} (g : Good h) {i j b : Nat} (hv : h.vars[i]? = some none)
    (hj : h.vars[j]? = some (some b)) : Good (share h i b) := by
  obtain ⟨hlive, hblt⟩ := bound_is_live g.toInv hj
  refine ⟨share_inv g.toInv hv hj, ?_⟩
  have hl := live_update h.rc b (h.rc b + 1) h.next
  rw [if_pos hblt, if_pos hblt] at hl
  have := g.accounted
  simp only [share]
  omega

theorem alloc_good {h : Heap} (g : Good h) {i : Nat} (hv : h.vars[i]? = some none) : Good (h.alloc i) := by
  have hnext := g.fresh h.next (Nat.le_refl _)
  refine ⟨alloc_inv g.toInv hv, ?_⟩
  have hl := live_update h.rc h.next 1 h.next
  rw [if_neg (Nat.lt_irrefl _), if_neg (Nat.lt_irrefl _)] at hl
  have := g.accounted
  simp only [Heap.alloc, live, if_true]
  omega

/-- one of the three edits, applied where the emitted code applies it -/
inductive Edit : Heap → Heap → Prop where
  | release {h : Heap} {i b : Nat} (hv : h.vars[i]? = some (some b)) : Edit h (release h i b)
  | share {h : Heap} {i j b : Nat} (hv : h.vars[i]? = some none) (hj : h.vars[j]? = some (some b)) :
      Edit h (share h i b)
  | alloc {h : Heap} {i : Nat} (hv : h.vars[i]? = some none) : Edit h (h.alloc i)

theorem edit_inv {h h' : Heap} (inv : Inv h) (e : Edit h h') : Inv h' := by
  cases e with
  | release hv => exact release_inv inv hv
  | share hv hj => exact share_inv inv hv hj
  | alloc hv => exact alloc_inv inv hv

theorem edit_good {h h' : Heap} (g : Good h) (e : Edit h h') : Good h' := by
  cases e with
  | release hv => exact release_good g hv
  | share hv hj => exact share_good g hv hj
  | alloc hv => exact alloc_good g hv

/-! The operations are compositions of these edits, so whatever every edit keeps (`Inv`, `Good`) is
kept by every operation and every history. -/

section
variable {P : Heap → Prop} (hP : ∀ {h h' : Heap}, P h → Edit h h' → P h')
include hP

theorem deinit_spec {h h' : Heap} (p : P h) {i : Nat} (hr : deinit h i = .ok h') :
    P h' ∧ i < h.vars.length ∧ h'.vars = h.vars.set i none := by
  unfold deinit at hr
  split at hr
  · cases hr
  · rename_i hv
    cases hr
    obtain ⟨hi, hg⟩ := List.getElem?_eq_some_iff.mp hv
    exact ⟨p, hi, by rw [← hg, List.set_getElem_self]⟩
  · rename_i b hv
    -- the two branches of the emitted routine differ only in the `deallocate`: a count of one
    -- goes to `1 - 1 = 0`
    have e : h' = release h i b := by
      split at hr
      · rename_i hone
        cases hr
        simp [release, Heap.setRc, hone]
      · rename_i hne
        cases hr
        simp [release, Heap.setRc, hne]
    subst e
    exact ⟨hP p (.release hv), (List.getElem?_eq_some_iff.mp hv).1, rfl⟩

theorem allocCheck_keeps {h h' : Heap} (p : P h) {i : Nat} (hr : allocCheck h i = .ok h') : P h' := by
  unfold allocCheck at hr
  split at hr
  · cases hr
  · rename_i hv
    cases hr
    exact hP p (.alloc hv)
  · rename_i b hv
    split at hr
    · rename_i hne
      cases hr
      -- copy-on-write: leave the shared block to the others (not the last reference: no
      -- `deallocate`), then take a fresh one
      have e : (h.setRc b (h.rc b - 1)).alloc i = (release h i b).alloc i := by
        simp only [Heap.alloc, release, hne, List.set_set, if_false, Nat.add_zero]
        rfl
      rw [e]
      have hi := (List.getElem?_eq_some_iff.mp hv).1
      exact hP (hP p (.release hv)) (.alloc (List.getElem?_set_self hi))
    · cases hr
      exact p

theorem move_keeps {h h' : Heap} (p : P h) {d s : Nat} (hr : move h d s = .ok h') : P h' := by
  unfold move at hr
  split at hr
  · cases hr
  · split at hr
    · cases hr
    · rename_i h1 hd
      obtain ⟨p1, hi, hvars⟩ := deinit_spec hP p hd
      have hdn : h1.vars[d]? = some none := by rw [hvars, List.getElem?_set_self hi]
      split at hr
      · cases hr
      · cases hr
      · rename_i b hv
        cases hr
        exact hP p1 (.share hdn hv)

theorem step_keeps {h h' : Heap} {op : Op} (p : P h) (hr : step h op = .ok h') : P h' := by
  cases op with
  | allocCheck i => exact allocCheck_keeps hP p hr
  | deinit i => exact (deinit_spec hP p hr).1
  | move d s => exact move_keeps hP p hr

theorem run_keeps : ∀ (ops : List Op) (h h' : Heap), P h → run h ops = .ok h' → P h' := by
  intro ops
  induction ops with
  | nil =>
    intro h h' p hr
    cases hr
    exact p
  | cons op ops ih =>
    intro h h' p hr
    simp only [run] at hr
    split at hr
    · cases hr
    · rename_i h1 hs
      exact ih h1 h' (step_keeps hP p hs) hr

theorem deinitAll_spec : ∀ (n : Nat) (h h' : Heap), P h → deinitAll h n = .ok h' →
    P h' ∧ h'.vars.length = h.vars.length ∧ ∀ i, i < n → h'.vars[i]? = some none := by
  intro n
  induction n with
  | zero =>
    intro h h' p hr
    cases hr
    exact ⟨p, rfl, fun i hi => absurd hi (Nat.not_lt_zero i)⟩
  | succ n ih =>
    intro h h' p hr
    simp only [deinitAll] at hr
    split at hr
    · cases hr
    · rename_i h1 h1r
      obtain ⟨p1, hlen, hnone⟩ := ih h h1 p h1r
      obtain ⟨p2, hn, hvars⟩ := deinit_spec hP p1 hr
      refine ⟨p2, by rw [hvars, List.length_set, hlen], fun i hi => ?_⟩
      rw [hvars]
      by_cases hin : n = i
      · subst hin
        exact List.getElem?_set_self hn
      · rw [List.getElem?_set_ne hin]
        exact hnone i (by omega)
end

theorem init_good (n : Nat) : Good (Heap.init n) := by
  refine ⟨⟨fun b => ?_, fun b _ => rfl⟩, rfl⟩
  simp [Heap.init, List.count_replicate]

/-- **The counting invariant is kept by every operation**, from any heap that has it … -/
theorem step_inv {h h' : Heap} (inv : Inv h) {op : Op} (hr : step h op = .ok h') : Inv h' :=
  step_keeps edit_inv inv hr

/-- … hence **after every sequence of operations** -/
theorem run_inv (ops : List Op) (h h' : Heap) (inv : Inv h) (hr : run h ops = .ok h') : Inv h' :=
  run_keeps edit_inv ops h h' inv hr

/-- storage is deallocated only when no OTHER variable is bound to it (no use after free through
    another variable, no second deallocation): when `deinit` frees, the count was exactly one -/
theorem free_only_last_reference {h : Heap} (inv : Inv h) {i b : Nat} (hv : h.vars[i]? = some (some b))
    (hone : h.rc b = 1) : ∀ j, j ≠ i → h.vars[j]? ≠ some (some b) := by
  intro j hji hvj
  -- once variable `i` has let go the count of `b` is zero, yet variable `j` is still bound to it
  have hj : (release h i b).vars[j]? = some (some b) := by
    simp only [release]
    rw [List.getElem?_set_ne (Ne.symm hji)]
    exact hvj
  have := (bound_is_live (release_inv inv hv) hj).1
  simp [release, hone] at this

/-- after releasing every variable **no block is live: nothing leaks**, and there were as many
    deallocations as allocations -/
theorem release_all_clean {h h' : Heap} (g : Good h) (hr : deinitAll h h.vars.length = .ok h') :
    (∀ b, h'.rc b = 0) ∧ h'.frees = h'.next := by
  obtain ⟨g', hlen, hnone⟩ := deinitAll_spec edit_good _ h h' g hr
  have clean : ∀ b, h'.rc b = 0 := by
    intro b
    rw [g'.counts b, List.count_eq_zero]
    intro hmem
    obtain ⟨i, hi, hget⟩ := List.getElem_of_mem hmem
    have := hnone i (by omega)
    rw [List.getElem?_eq_getElem hi, hget] at this
    cases this
  have dead : ∀ n, live h'.rc n = 0 := by
    intro n
    induction n with
    | zero => rfl
    | succ n ih => simp [live, ih, clean n]
  have := g'.accounted
  rw [dead] at this
  exact ⟨clean, this⟩

/-- for every operation sequence from the initial state: whatever happened, releasing everything at
    the end leaves no live block -/
theorem any_history_then_release_all_is_clean (n : Nat) (ops : List Op) (h h' : Heap)
    (hrun : run (Heap.init n) ops = .ok h) (hrel : deinitAll h h.vars.length = .ok h') : ∀ b, h'.rc b = 0 :=
  (release_all_clean (run_keeps edit_good ops _ h (init_good n) hrun) hrel).1

/-- **Every block is released exactly once**: for every operation sequence from the initial state
    followed by the release of every variable, the number of executed deallocations equals the
    number of blocks ever allocated (and no block is live: `any_history_then_release_all_is_clean`;
    a block is deallocated only through its last reference: `free_only_last_reference`) -/
theorem every_block_released_exactly_once (n : Nat) (ops : List Op) (h h' : Heap)
    (hrun : run (Heap.init n) ops = .ok h) (hrel : deinitAll h h.vars.length = .ok h') :
    h'.frees = h'.next :=
  (release_all_clean (run_keeps edit_good ops _ h (init_good n) hrun) hrel).2

/-! non-vacuity: allocate `v0`, move it to `v1`, write to `v0` (copy-on-write takes a fresh block),
    release both -/
example : (match run (Heap.init 2) [.allocCheck 0, .move 1 0, .allocCheck 0, .deinit 0, .deinit 1] with
    | .ok h => (h.vars, h.next, h.frees, h.rc 0, h.rc 1)
    | .error _ => ([], 0, 0, 9, 9)) = ([none, none], 2, 2, 0, 0) := by decide

end Dagrt.C12
