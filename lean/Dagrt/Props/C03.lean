import Dagrt.Props.C01
/-!
# C03 — compiled Fortran stepper computes the same states as the interpreter

What is modelled of the Fortran target: the `run` entry point emitted by `emit_run_step`
(`fortranRun` below: dispatch on `dagrt_next_phase`, the default successor is stored BEFORE the
phase subroutine is called, `FailStep` / `SwitchPhase` leave through the exit label, a switch
overwrites the stored successor, locals of the phase subroutine do not survive the call) over a
phase body that executes the emitted statements in the order of the lowering.  The text emitter
itself (declarations, expression printer, built-in templates, reference counting) is NOT modelled:
it is exercised end to end on every run — the emitted module is compiled by gfortran and its
printed states are compared with the REAL interpreter and, for integer-exact methods, with the
Lean reference semantics of the written program (`StepLoop.stepRef`, the C01 model).

Proved: for every method, store and body, one `run()` call leaves the persistent variables and the
next phase that one interpreter step leaves (`run_call_eq_interpreter_step`), for every
admissible order of the statements — in particular the lowering's — (`fortran_body_order_irrelevant`),
and a sequence of `run()` calls walks through the same phases as the interpreter's step loop
(`run_calls_eq_steps`).
-/
namespace Dagrt.C03
open Dagrt Dagrt.Sem Dagrt.Builder Dagrt.StepLoop

/-- one `call run(dagrt_state)`; `none` = "encountered invalid phase in run" (the program stops) -/
def fortranRun (body : Phase → Store → Boxed) (ps : List Phase) (s : RunState) : Option RunState :=
  match findPhase ps s.next with
  | none => none
  | some ph =>
    -- dagrt_state%dagrt_next_phase = <default successor>; call dagrt_phase_func_<ph>(dagrt_state)
    let σ1 := (body ph (startStep s.σ)).σ
    some ⟨persist σ1, match σ1.status with | .switched p => p | _ => ph.next⟩

theorem fortranRun_eq (body : Phase → Store → Boxed) (ps : List Phase) (s : RunState) :
    fortranRun body ps s = (findPhase ps s.next).map (fun _ => (stepWith body ps s).2.2) := by
  unfold fortranRun stepWith
  cases hf : findPhase ps s.next with
  | none => rfl
  | some ph =>
    simp only [finishStep, Option.map_some]
    cases (body ph (startStep s.σ)).σ.status <;> rfl

/-- **One `run()` call = one interpreter step** on the persistent variables and the next phase —
    whether the step completes, fails or switches phase -/
theorem run_call_eq_interpreter_step (body : Phase → Store → Boxed) (ps : List Phase) (s : RunState)
    (hp : (findPhase ps s.next).isSome) :
    fortranRun body ps s = some (stepWith body ps s).2.2 := by
  obtain ⟨ph, hf⟩ := Option.isSome_iff_exists.mp hp
  rw [fortranRun_eq, hf]
  rfl

/-- the order in which the phase subroutine executes the emitted statements does not matter as long
    as it respects the recorded dependencies (the lowering's topological order does: C05) -/
theorem fortran_body_order_irrelevant (F : Funs) (ps : List Phase) (sched₁ sched₂ : Phase → List Nat)
    (h₁ : ∀ ph ∈ ps, C01.Admissible ph.ops (sched₁ ph)) (h₂ : ∀ ph ∈ ps, C01.Admissible ph.ops (sched₂ ph))
    (s : RunState) :
    fortranRun (fun ph σ => { σ := flatExec F (flatStmts ph.ops) (sched₁ ph) σ }) ps s =
      fortranRun (fun ph σ => { σ := flatExec F (flatStmts ph.ops) (sched₂ ph) σ }) ps s := by
  have := C01.step_backends_agree F ps sched₁ sched₂ h₁ h₂ s
  unfold stepFlat at this
  rw [fortranRun_eq, fortranRun_eq, this]

/-- `n` calls of `run()` -/
def fortranRuns (body : Phase → Store → Boxed) (ps : List Phase) : Nat → RunState → Option RunState
  | 0, s => some s
  | n + 1, s =>
    match fortranRun body ps s with
    | none => none
    | some s' => fortranRuns body ps n s'

/-- `n` interpreter steps (`run_single_step` called `n` times, failed steps included) -/
def interpSteps (body : Phase → Store → Boxed) (ps : List Phase) : Nat → RunState → RunState
  | 0, s => s
  | n + 1, s => interpSteps body ps n (stepWith body ps s).2.2

/-- **Any number of `run()` calls** leaves the state that the same number of interpreter steps
    leaves, as long as every phase that comes up exists (verify_code checks switch targets) -/
theorem run_calls_eq_steps (body : Phase → Store → Boxed) (ps : List Phase)
    (hclosed : ∀ s : RunState, (findPhase ps s.next).isSome → (findPhase ps (stepWith body ps s).2.2.next).isSome) :
    ∀ (n : Nat) (s : RunState), (findPhase ps s.next).isSome →
      fortranRuns body ps n s = some (interpSteps body ps n s) := by
  intro n
  induction n with
  | zero => exact fun s _ => rfl
  | succ n ih =>
    intro s hp
    simp only [fortranRuns, interpSteps, run_call_eq_interpreter_step body ps s hp]
    exact ih _ (hclosed s hp)

/-- **One `run()` call = one step of the WRITTEN program** (C01's bridge): for every method the
    builder accepts (its own statements off the builder's flag names) and every admissible order
    of the phase subroutine's statements, the call leaves the persistent variables and the next
    phase that carrying out the builder calls block by block leaves -/
theorem run_call_eq_written_step (F : Funs) (ps : List Phase) (sched : Phase → List Nat)
    (hs : ∀ ph ∈ ps, C01.Admissible ph.ops (sched ph)) (hw : ∀ ph ∈ ps, C01.WellBuilt ph.ops)
    (s : RunState) (hp : (findPhase ps s.next).isSome) :
    fortranRun (fun ph σ => { σ := flatExec F (flatStmts ph.ops) (sched ph) σ }) ps s =
      some (stepRef F ps s).2.2 := by
  rw [run_call_eq_interpreter_step _ ps s hp]
  have := C01.step_backend_eq_written F ps sched hs hw s
  unfold stepFlat at this
  rw [this]

end Dagrt.C03
