import Dagrt.Props.C02
import Dagrt.Proofs.BridgeProofs
/-!
# C01 — interpreter and generated Python stepper both implement the written program

Model: `Dagrt.StepLoop` (`Model/StepLoop.lean`).
* `seqExec` — the reference: the builder calls carried out one after another (blocks entered iff
  their condition was true on entry).  This is what the driver runs and what the REAL interpreter
  and the REAL generated class are compared with on every run (events, persistent state and next
  phase after every step).
* `flatExec … π` — what a back end does in one step: the guarded statements the builder emitted
  (`Builder.run`, the C02 model), executed in an order `π`.  The interpreter takes the order of its
  execution controller (C04: a permutation that puts dependencies first), the generated code the
  topological order of the lowering (C05: likewise), both of the same recorded `depends_on` edges.
* `stepWith` / `runLoop` — `run_single_step` and `run` (identical in `NumpyInterpreter` and in the
  emitted template): the next phase is advanced to the default successor before the body runs,
  per-step variables are discarded afterwards (also after a failure), a failed step is reported
  and not counted against `max_steps`, a phase switch replaces the successor, a raised error ends
  the run.

Proved here (all programs, all admissible orders, all stores, all function interpretations, all run
lengths and end times): the order in which a back end executes the emitted statements does not
matter — per step and for whole runs — so interpreter and generated code, which differ ONLY in that
order in this model, produce the same events and the same states, and both equal program order of
the flat statements.  `seq_eq_flat_straightline_partial`: for programs without `if_`/`else_` the
flat program order IS the written program.  `seq_eq_flat` / `backend_implements_program`: the
general bridge — for every program the builder accepts whose own statements and conditions do not
mention the builder's `<cond>` flag names, started from a store in which those flags are unset, the
flat guarded statements in ANY admissible order leave in every variable other than the flags
(including `<exec>`: events and status) exactly what carrying out the builder calls block by block
leaves (a block runs iff all enclosing entry conditions held; `else_` is the negation of the `if_`
closed immediately before).  The proof is a simulation (`Proofs/BridgeProofs.lean`, `Sim`) whose
invariant says that each flag on the builder's condition stack currently evaluates to the entry
condition of its block, that flags not handed out yet are unset, and that no user statement
touches a flag.
-/
namespace Dagrt.StepLoop
open Dagrt Dagrt.Sem

theorem stepWith_congr {body₁ body₂ : Phase → Store → Boxed} {ps : List Phase} {s : RunState}
    (h : ∀ ph ∈ ps, finishStep ph (body₁ ph (startStep s.σ)) = finishStep ph (body₂ ph (startStep s.σ))) :
    stepWith body₁ ps s = stepWith body₂ ps s := by
  unfold stepWith
  cases hf : findPhase ps s.next with
  | none => rfl
  | some ph => exact h ph (List.mem_of_find?_eq_some hf)

theorem runLoop_congr {step : RunState → List Ev × Outcome × RunState} {tEnd : Option Int} {maxSteps : Option Nat}
    {n : Nat} {s₁ s₂ : RunState} (hstop : stopNow s₁ tEnd maxSteps n = stopNow s₂ tEnd maxSteps n)
    (hstep : step s₁ = step s₂) : ∀ fuel, runLoop step tEnd maxSteps fuel n s₁ = runLoop step tEnd maxSteps fuel n s₂
  | 0 => rfl
  | fuel + 1 => by
    unfold runLoop
    rw [hstop, hstep]

end Dagrt.StepLoop

namespace Dagrt.C01
open Dagrt Dagrt.Sem Dagrt.Builder Dagrt.StepLoop

/-- an order a back end may use: every emitted statement exactly once, dependencies first -/
def Admissible (ops : List BOp) (π : List Nat) : Prop :=
  π.Perm (List.range (flatStmts ops).length) ∧ LinExt (Builder.run ops).core.D π

def progOrder (ops : List BOp) : List Nat := List.range (flatStmts ops).length

/-- `C02.prog` / `C02.sem` are `flatStmts` / `flatStep` under C02's own names -/
theorem flat_is_sched (F : Funs) (ops : List BOp) (π : List Nat) (σ : Store) :
    flatExec F (flatStmts ops) π σ = Sched.exec (C02.sem F ops) π σ := by
  rw [flatExec_def]
  unfold Sched.exec
  congr 1

/-- **Within a step the order does not matter**: every admissible order of the emitted statements
    gives the store — events, status, every variable — of program order. -/
theorem body_order_irrelevant (F : Funs) (ops : List BOp) (π : List Nat) (σ : Store)
    (h : Admissible ops π) :
    flatExec F (flatStmts ops) π σ = flatExec F (flatStmts ops) (progOrder ops) σ := by
  rw [flat_is_sched, flat_is_sched]
  exact C02.any_schedule_eq_program_order ops F π σ h.1 h.2

/-- two back ends whose schedulers pick admissible orders take the same step: same events, same
    outcome (completed / failed / raised), same persistent state, same next phase -/
theorem step_backends_agree (F : Funs) (ps : List Phase) (sched₁ sched₂ : Phase → List Nat)
    (h₁ : ∀ ph ∈ ps, Admissible ph.ops (sched₁ ph)) (h₂ : ∀ ph ∈ ps, Admissible ph.ops (sched₂ ph))
    (s : RunState) : stepFlat F sched₁ ps s = stepFlat F sched₂ ps s :=
  stepWith_congr fun ph hm => by
    rw [body_order_irrelevant F ph.ops _ _ (h₁ ph hm), body_order_irrelevant F ph.ops _ _ (h₂ ph hm)]

/-- … and the same whole run, for every end time, step limit and number of loop passes -/
theorem run_backends_agree (F : Funs) (ps : List Phase) (sched₁ sched₂ : Phase → List Nat)
    (h₁ : ∀ ph ∈ ps, Admissible ph.ops (sched₁ ph)) (h₂ : ∀ ph ∈ ps, Admissible ph.ops (sched₂ ph))
    (tEnd : Option Int) (maxSteps : Option Nat) (fuel n : Nat) (s : RunState) :
    runLoop (stepFlat F sched₁ ps) tEnd maxSteps fuel n s = runLoop (stepFlat F sched₂ ps) tEnd maxSteps fuel n s := by
  rw [funext (step_backends_agree F ps sched₁ sched₂ h₁ h₂)]

/-- program order is admissible (so "both equal program order" is an instance of the above) -/
theorem progOrder_admissible (ops : List BOp) : Admissible ops (progOrder ops) := by
  refine ⟨List.Perm.refl _, ?_⟩
  intro pre j post hsplit d hd
  -- `d < j` is in `range n = pre ++ j :: post`, which is increasing: it cannot come after `j`
  have hb := C02.deps_backward ops j d hd
  have hs : (pre ++ j :: post).Pairwise (· < ·) := hsplit ▸ List.pairwise_lt_range
  have hj : j ∈ progOrder ops := hsplit ▸ List.mem_append_right _ List.mem_cons_self
  have hdm : d ∈ pre ++ j :: post := hsplit ▸ List.mem_range.mpr (Nat.lt_trans hb (List.mem_range.mp hj))
  rcases List.mem_append.mp hdm with h | h
  · exact h
  · rcases List.mem_cons.mp h with rfl | h
    · exact absurd hb (Nat.lt_irrefl _)
    · exact absurd ((List.pairwise_cons.mp (List.pairwise_append.mp hs).2.1).1 d h) (Nat.lt_asymm hb)

/-- whatever the body did, a per-step variable is gone after the step -/
theorem temporaries_discarded (body : Phase → Store → Boxed) (ps : List Phase) (s : RunState)
    (x : Name) (hx : isPersistent x = false) (hfound : (findPhase ps s.next).isSome) :
    (stepWith body ps s).2.2.σ x = .val .none := by
  unfold stepWith
  cases hf : findPhase ps s.next with
  | none => simp [hf] at hfound
  | some ph =>
    simp only [finishStep]
    split <;> simp [persist, hx]

/-- the next phase is the default successor unless the step switched phase — also after a failed
    step (the successor is stored before the body runs and is not rolled back) -/
theorem next_phase_rule (body : Phase → Store → Boxed) (ps : List Phase) (s : RunState) (ph : Phase)
    (hf : findPhase ps s.next = some ph) :
    (stepWith body ps s).2.2.next =
      match (body ph (startStep s.σ)).σ.status with
      | .switched p => p
      | _ => ph.next := by
  unfold stepWith
  simp only [hf, finishStep]
  split <;> simp_all

/-- a failed step is reported and does not count against `max_steps` -/
theorem failed_step_not_counted (step : RunState → List Ev × Outcome × RunState) (tEnd : Option Int)
    (maxSteps : Option Nat) (fuel n : Nat) (s s' : RunState) (evs : List Ev)
    (hgo : stopNow s tEnd maxSteps n = false) (hs : step s = (evs, .failed, s')) :
    runLoop step tEnd maxSteps (fuel + 1) n s = (evs, s') :: runLoop step tEnd maxSteps fuel n s' := by
  simp [runLoop, hgo, hs]

theorem completed_step_counted (step : RunState → List Ev × Outcome × RunState) (tEnd : Option Int)
    (maxSteps : Option Nat) (fuel n : Nat) (s s' : RunState) (evs : List Ev)
    (hgo : stopNow s tEnd maxSteps n = false) (hs : step s = (evs, .completed, s')) :
    runLoop step tEnd maxSteps (fuel + 1) n s = (evs, s') :: runLoop step tEnd maxSteps fuel (n + 1) s' := by
  simp [runLoop, hgo, hs]

/-- a raised error ends the run after reporting the events of the step -/
theorem raise_ends_run (step : RunState → List Ev × Outcome × RunState) (tEnd : Option Int)
    (maxSteps : Option Nat) (fuel n : Nat) (s s' : RunState) (evs : List Ev)
    (hgo : stopNow s tEnd maxSteps n = false) (hs : step s = (evs, .raised, s')) :
    runLoop step tEnd maxSteps (fuel + 1) n s = [(evs, s')] := by
  simp [runLoop, hgo, hs]

theorem flat_rangeFrom_eq_fold (F : Funs) : ∀ (l pre : List Stmt) (σ : Store),
    flatExec F (pre ++ l) (List.range' pre.length l.length) σ = l.foldl (fun σ s => exec F s σ) σ := by
  intro l
  induction l with
  | nil => intro pre σ; simp [flatExec_def]
  | cons s l ih =>
    intro pre σ
    have h := ih (pre ++ [s]) (exec F s σ)
    simp only [List.length_append, List.length_singleton, List.append_assoc, List.singleton_append] at h
    simp only [List.length_cons, List.range'_succ, List.foldl_cons]
    rw [← h, flatExec_def, flatExec_def]
    simp only [List.foldl_cons]
    have : (pre ++ s :: l)[pre.length]? = some s := by simp
    simp only [flatStep, this]
    rfl

theorem flat_progOrder (F : Funs) (ops : List BOp) (σ : Store) :
    flatExec F (flatStmts ops) (progOrder ops) σ = (flatStmts ops).foldl (fun σ s => exec F s σ) σ := by
  have := flat_rangeFrom_eq_fold F (flatStmts ops) [] σ
  simpa [progOrder, List.range_eq_range'] using this

theorem run_straight : ∀ (ks : List Kind) (st : BState), st.condStack = [] → st.failed = none →
    (runFrom st (ks.map .stmt)).out.map (·.1) =
      st.out.map (·.1) ++ ks.map (fun k => (⟨.const (.bool true), k⟩ : Stmt)) := by
  intro ks
  induction ks with
  | nil => intro st _ _; simp [runFrom]
  | cons k ks ih =>
    intro st hc hf
    rw [List.map_cons, runFrom_cons hf, ih _ (by simp [step, addStatement, hc]) (by simp [step, addStatement, hf])]
    simp [step, addStatement, hc, condOf]

theorem seq_straight (F : Funs) : ∀ (ks : List Kind) (s : SeqState), s.stack = [] → s.failed = false →
    (seqFrom F s (ks.map .stmt)).σ = ks.foldl (fun σ k => exec F ⟨.const (.bool true), k⟩ σ) s.σ := by
  intro ks
  induction ks with
  | nil => exact fun s _ _ => rfl
  | cons k ks ih =>
    intro s hs hf
    rw [List.map_cons, seqFrom_cons F hf, ih _ (by rw [seqStep_stmt]; exact hs) (by rw [seqStep_stmt]; exact hf), seqStep_stmt]
    simp [hs, allTrue]

/-- for a program that consists of statements only (no `if_` / `else_`), executing the emitted
    flat statements in program order IS carrying out the builder calls one after another — with
    `body_order_irrelevant`: every admissible order of a back end implements the written program -/
theorem seq_eq_flat_straightline_partial (F : Funs) (ks : List Kind) (σ : Store) :
    (seqExec F (ks.map BOp.stmt) σ).σ =
      flatExec F (flatStmts (ks.map BOp.stmt)) (progOrder (ks.map BOp.stmt)) σ := by
  rw [flat_progOrder]
  show (seqFrom F ⟨σ, [], none, false⟩ _).σ = ((runFrom BState.init _).out.map (·.1)).foldl _ σ
  rw [seq_straight F ks _ rfl rfl, run_straight ks BState.init rfl rfl]
  simp [BState.init, List.foldl_map]

theorem backend_implements_straightline_partial (F : Funs) (ks : List Kind) (π : List Nat) (σ : Store)
    (h : Admissible (ks.map BOp.stmt) π) :
    flatExec F (flatStmts (ks.map BOp.stmt)) π σ = (seqExec F (ks.map BOp.stmt) σ).σ := by
  rw [body_order_irrelevant F _ π σ h, seq_eq_flat_straightline_partial]

/-- **C01, program order = written program** (all programs the builder accepts whose own statements and
    conditions stay off the flag names — `OpOK` —, all stores with the flag names unset, all function
    interpretations).  Off the builder's own `<cond>` flags, executing
    the emitted guarded statements in program order leaves exactly what carrying out the builder
    calls block by block leaves — events, status and every variable. -/
theorem seq_eq_flat (F : Funs) (ops : List BOp) (σ : Store)
    (hbuilt : (Builder.run ops).failed = none)
    (hok : ∀ op ∈ ops, OpOK op)
    (hunset : ∀ x, IsFlag x → σ x = .val .none) :
    (seqExec F ops σ).failed = false ∧
    ∀ x, ¬ IsFlag x → flatExec F (flatStmts ops) (progOrder ops) σ x = (seqExec F ops σ).σ x := by
  have sim0 : Sim F σ BState.init σ ⟨σ, [], none, false⟩ :=
    ⟨rfl, rfl, fun _ _ => rfl, rfl, rfl,
      fun c hc => by rcases hc with h | h <;> simp [BState.init] at h,
      fun x hx _ => hunset x hx, rfl⟩
  obtain ⟨σf, sim⟩ := sim_run F σ ops BState.init σ _ sim0 hok hbuilt
  refine ⟨sim.sfail, fun x hx => ?_⟩
  have h := sim.agree x hx
  rw [sim.flat] at h
  rw [flat_progOrder]
  exact h

/-- **C01, both back ends implement the written program**: whatever admissible order a back end
    picks for the emitted statements (C04: the interpreter's controller; C05: the lowering), one
    step body leaves what the written program says, off the flags. -/
theorem backend_implements_program (F : Funs) (ops : List BOp) (π : List Nat) (σ : Store)
    (hπ : Admissible ops π)
    (hbuilt : (Builder.run ops).failed = none)
    (hok : ∀ op ∈ ops, OpOK op)
    (hunset : ∀ x, IsFlag x → σ x = .val .none) :
    ∀ x, ¬ IsFlag x → flatExec F (flatStmts ops) π σ x = (seqExec F ops σ).σ x := by
  intro x hx
  rw [body_order_irrelevant F ops π σ hπ]
  exact (seq_eq_flat F ops σ hbuilt hok hunset).2 x hx

/-- the events and the status of a step are among the things the two agree on -/
theorem backend_events_eq_program (F : Funs) (ops : List BOp) (π : List Nat) (σ : Store)
    (hπ : Admissible ops π)
    (hbuilt : (Builder.run ops).failed = none)
    (hok : ∀ op ∈ ops, OpOK op)
    (hunset : ∀ x, IsFlag x → σ x = .val .none) :
    (flatExec F (flatStmts ops) π σ).log = (seqExec F ops σ).σ.log ∧
    (flatExec F (flatStmts ops) π σ).status = (seqExec F ops σ).σ.status := by
  have := backend_implements_program F ops π σ hπ hbuilt hok hunset EXEC exec_not_flag
  simp [Store.log, Store.status, this]

theorem flag_length {x : Name} (h : IsFlag x) : 6 ≤ x.length := by
  obtain ⟨rest, hr⟩ := flag_prefix h
  rw [← String.length_toList, hr]
  simp

theorem flag_not_persistent {x : Name} (h : IsFlag x) : isPersistent x = false := by
  obtain ⟨rest, hr⟩ := flag_prefix h
  have ht : ("<t>" : String).toList = ['<', 't', '>'] := by decide
  have hdt : ("<dt>" : String).toList = ['<', 'd', 't', '>'] := by decide
  have hs : ("<state>" : String).toList = ['<', 's', 't', 'a', 't', 'e', '>'] := by decide
  have hp : ("<p>" : String).toList = ['<', 'p', '>'] := by decide
  have ne : ∀ n : String, n.toList ≠ x.toList → (x == n) = false := fun n hn => by
    rw [beq_eq_false_iff_ne]
    rintro rfl
    exact hn rfl
  rw [isPersistent, ne "<t>" (by rw [ht, hr]; simp), ne "<dt>" (by rw [hdt, hr]; simp)]
  simp [hasPrefix, hs, hp, hr, List.isPrefixOf]

theorem startStep_flags_unset (σ : Store) (x : Name) (h : IsFlag x) : startStep σ x = .val .none := by
  have hne : x ≠ EXEC := by rintro rfl; exact exec_not_flag h
  simp [startStep, Store.set, hne, persist, flag_not_persistent h]

/-- what `run` makes of a step only looks at the events, the status and the persistent names -/
theorem finishStep_congr (ph : Phase) (b b' : Boxed) (h : ∀ x, ¬ IsFlag x → b.σ x = b'.σ x) :
    finishStep ph b = finishStep ph b' := by
  have hp : persist b.σ = persist b'.σ := by
    funext x
    unfold persist
    cases hx : isPersistent x
    · rfl
    · simp only [cond_true]
      exact h x (fun hf => by rw [flag_not_persistent hf] at hx; cases hx)
  have he := h EXEC exec_not_flag
  have hl : b.σ.log = b'.σ.log := by simp [Store.log, he]
  have hs : b.σ.status = b'.σ.status := by simp [Store.status, he]
  unfold finishStep
  simp only [hp, hl, hs]

/-- a program a back end can be compared with the written program on: the builder accepted it and
    its own statements and conditions stay off the builder's flag names -/
def WellBuilt (ops : List BOp) : Prop :=
  (Builder.run ops).failed = none ∧ ∀ op ∈ ops, OpOK op

/-- **C01, one step**: a back end whose scheduler picks admissible orders takes exactly the step the
    written program describes — same events, same outcome, same persistent state, same next phase -/
theorem step_backend_eq_written (F : Funs) (ps : List Phase) (sched : Phase → List Nat)
    (hs : ∀ ph ∈ ps, Admissible ph.ops (sched ph)) (hw : ∀ ph ∈ ps, WellBuilt ph.ops) (s : RunState) :
    stepFlat F sched ps s = stepRef F ps s :=
  stepWith_congr fun ph hm => finishStep_congr ph _ _ fun x hx =>
    backend_implements_program F ph.ops (sched ph) (startStep s.σ) (hs ph hm) (hw ph hm).1 (hw ph hm).2
      (startStep_flags_unset s.σ) x hx

/-- **C01, whole runs**: … and therefore produces exactly the run of the written program, for every
    end time, step limit and number of loop passes -/
theorem run_backend_eq_written (F : Funs) (ps : List Phase) (sched : Phase → List Nat)
    (hs : ∀ ph ∈ ps, Admissible ph.ops (sched ph)) (hw : ∀ ph ∈ ps, WellBuilt ph.ops)
    (tEnd : Option Int) (maxSteps : Option Nat) (fuel n : Nat) (s : RunState) :
    runLoop (stepFlat F sched ps) tEnd maxSteps fuel n s = runLoop (stepRef F ps) tEnd maxSteps fuel n s := by
  rw [funext (step_backend_eq_written F ps sched hs hw)]

/-- the hypotheses of the bridge are satisfiable by a program with an `if_` / `else_` pair whose
    two branches assign different values (a store with everything unset but `a`) -/
example :
    let ops : List BOp :=
      [.ifBegin (.var "a"), .stmt (.assign "y" none (.const (.int 1)) []), .ifEnd,
       .elseBegin, .stmt (.assign "y" none (.const (.int 2)) []), .elseEnd]
    (Builder.run ops).failed = none ∧ (∀ op ∈ ops, OpOK op) ∧
    (∀ x, IsFlag x → (fun n => if n = "a" then Cell.val (.bool false) else .val .none : Store) x = .val .none) := by
  -- flag names have at least 6 characters, `a` and `y` have one
  have hy : ∀ k : Int, OpOK (.stmt (.assign "y" none (.const (.int k)) [])) := fun k x hx => by
    have h6 := flag_length hx
    have hne : x ≠ "y" := by rintro rfl; revert h6; decide
    have hne2 : x ≠ "<exec>" := by rintro rfl; exact exec_not_flag hx
    simp [effR, effW, declReads, declWrites, depVars, loopVars, Kind.isAssignment, hne, hne2, EXEC]
  refine ⟨by decide +kernel, ?_, ?_⟩
  · intro op hop
    simp only [List.mem_cons, List.mem_nil_iff, or_false] at hop
    rcases hop with rfl | rfl | rfl | rfl | rfl | rfl
    · intro x hx; have := flag_length hx
      simp only [depVars, List.mem_singleton]
      rintro rfl; revert this; decide
    · exact hy 1
    · trivial
    · trivial
    · exact hy 2
    · trivial
  · intro x hx
    have := flag_length hx
    have hne : x ≠ "a" := by rintro rfl; revert this; decide
    simp [hne]

end Dagrt.C01
