import Dagrt.Props.C05
import Dagrt.Props.C01
import Dagrt.Props.C07
/-!
# C15 — generated source text is a pure function of the method description

The text emitters themselves are not modelled (their determinism for ORDERED inputs is observed on
every run: sha256 of the Python and Fortran text across hash seeds, container orders and process
histories).  What is proved is that everything that feeds them is independent of the iteration
order of the containers — for all methods:
* the lowered structured program does not depend on the storage order of the statements
  (`lowering_storage_order`, C05) nor on the order inside a `depends_on` set
  (`dependency_order`: the lowering sorts them);
* the interpreter's observable results do not depend on the admissible order in which its controller
  schedules the statements (`interpreter_schedule`, C01/C02);
* the names and ids the rewriting passes introduce are determined by the sequence of generator
  calls alone: the two generators are created per pass application from the statements of the
  phase, there is no state shared between generator objects in the model (`pass_state_is_local`),
  self-dependency elimination visits the variables in sorted order (after the `fix:` commit; the
  model takes the order as an input and the correspondence run feeds it the sorted one — for
  sorted enumerations of a set, `dependency_order` is the statement that the enumeration order is
  irrelevant).
-/
namespace Dagrt.C15
open Dagrt Dagrt.Lower Dagrt.Passes

/-- the structured program is the same for every storage order of the statements -/
theorem lowering_storage_order {p p' : Phase} (hp : p.Perm p') (wf : Lower.LWF p) : createAst p = createAst p' :=
  C05.storage_order_irrelevant hp wf

/-- the order in which a `depends_on` set is enumerated does not matter: it is sorted first -/
theorem dependency_order {l l' : List Nat} (h : l.Perm l') : isort l = isort l' :=
  C05.isort_eq_of_perm h

/-- the interpreter's events and states do not depend on the controller's schedule, as long as it is
    admissible (every statement once, dependencies first: C04) -/
theorem interpreter_schedule (F : Sem.Funs) (ps : List StepLoop.Phase) (sched₁ sched₂ : StepLoop.Phase → List Nat)
    (h₁ : ∀ ph ∈ ps, C01.Admissible ph.ops (sched₁ ph)) (h₂ : ∀ ph ∈ ps, C01.Admissible ph.ops (sched₂ ph))
    (tEnd : Option Int) (maxSteps : Option Nat) (fuel n : Nat) (s : StepLoop.RunState) :
    StepLoop.runLoop (StepLoop.stepFlat F sched₁ ps) tEnd maxSteps fuel n s =
      StepLoop.runLoop (StepLoop.stepFlat F sched₂ ps) tEnd maxSteps fuel n s :=
  C01.run_backends_agree F ps sched₁ sched₂ h₁ h₂ tEnd maxSteps fuel n s

/-- a pass application starts from generators that are a function of the phase alone -/
theorem pass_state_is_local (pass : Pass) (stmts : List Fuse.FStmt) (orders : List (List Name)) :
    applyPass pass stmts orders = runPass pass stmts orders (initPS stmts) := rfl

end Dagrt.C15
