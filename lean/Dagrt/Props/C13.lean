import Dagrt.Proofs.NamesProofs
/-!
# C13 — distinct IR names map to distinct, legal, stable target identifiers

Model: `Dagrt.Names` (`Model/Names.lean`) = `make_identifier_from_name`, `KeyToUniqueNameMap`,
`pytools.UniqueNameGenerator` (third party, modelled), `PythonNameManager`, `FortranNameManager`
(with the case-insensitive generator of the `fix:` commit).  Theorems are for every name and every
set of names in use.  The generator theorems cover every history of calls; the two map theorems are
about ONE look-up from any state of map and generator, and of the two managers only the Python one's
step for a variable occurs in a theorem (`py_storage_class`).
Not provable because false on the code (known findings, see KNOWN_FINDINGS.json): Fortran length
limit, Python/Fortran function identifiers without a sanitising prefix, IR names that start with
`dagrt_`.
-/
namespace Dagrt.C13
open Dagrt.Names

/-- the sanitiser returns a non-empty string of ASCII identifier characters that does not start
    with an underscore -/
theorem sanitised (name : List Char) :
    makeIdentifier name ≠ [] ∧ (∀ c ∈ makeIdentifier name, identChar c = true) ∧
    (∀ x xs, makeIdentifier name = x :: xs → x ≠ '_') := by
  unfold makeIdentifier
  simp only
  split
  · exact ⟨fallbackName_legal.1, fallbackName_legal.2.1, fun x xs h => by
      cases (congrArg List.head? h).symm.trans fallbackName_legal.2.2
      decide⟩
  · refine ⟨by assumption, fun c hc => ?_, fun x xs h => ?_⟩
    · obtain ⟨a, _, rfl⟩ := List.mem_map.mp ((List.dropWhile_sublist _).subset hc)
      split
      · assumption
      · decide
    · simpa [h] using List.head?_dropWhile_not (· == '_') (name.map fun c => if identChar c then c else '_')

theorem generator_total (g : Gen) (b : List Char) : ∃ r, g.call b = some r := gen_total g b

/-- what the generator returns was not in use (case-folded for Fortran), is in use afterwards, and
    nothing in use is forgotten -/
theorem generator_fresh (g g' : Gen) (b nm : List Char) (h : g.call b = some (g', nm)) :
    g.conflicting nm = false ∧ g'.conflicting nm = true ∧
      (∀ m, g.conflicting m = true → g'.conflicting m = true) := gen_fresh g g' b nm h

section
set_option linter.unusedVariables false -- `g0` occurs nowhere else in the statement
/-- hence ALL names handed out by one generator, over any history of calls, are pairwise
    different under the target's identifier comparison (the two hypotheses on `out` are
    `Names.Handed g out`, and the step is `Handed.call`) -/
theorem generator_history_distinct (g0 : Gen) : ∀ (seeds : List (List Char)) (g : Gen) (out : List (List Char)),
    (∀ n ∈ out, g.conflicting n = true) → (out.map g.norm).Nodup →
    ∀ gN outN, seeds.foldl (fun (st : Option (Gen × List (List Char))) b =>
        match st with
        | none => none
        | some (g, o) => match g.call b with
          | none => none
          | some (g', n) => some (g', o ++ [n])) (some (g, out)) = some (gN, outN) →
      gN.caseless = g.caseless → (outN.map g.norm).Nodup := by
  intro seeds
  induction seeds with
  | nil =>
    intro g out _ hnd gN outN h _
    cases h
    exact hnd
  | cons b bs ih =>
    intro g out hk hnd gN outN h hcl
    obtain ⟨⟨g1, n⟩, hc⟩ := gen_total g b
    obtain ⟨⟨hk1, hnd1⟩, hnorm⟩ := Handed.call ⟨hk, hnd⟩ hc
    simp only [List.foldl, hc] at h
    rw [← hnorm]
    exact ih g1 _ hk1 hnd1 gN outN h (hcl.trans (gen_call_caseless hc).symm)
end

/-- a later look-up of the same key returns the first answer -/
theorem map_lookup_stable (m m' : KeyMap) (g g' g'' : Gen) (key : String) (p p' : Option String)
    (n : List Char) (h : getOrMake m g key p = some (m', g', n)) :
    getOrMake m' g'' key p' = some (m', g'', n) := by
  rcases getOrMake_cases h with ⟨hl, rfl, _⟩ | ⟨_, rfl, _⟩
  · simp [getOrMake, KeyMap.get, hl]
  · simp [getOrMake, KeyMap.get, List.lookup]

/-- distinct keys never share an identifier: ONE look-up keeps the invariant "all identifiers of the
    map are known to the generator and pairwise different (case-folded for Fortran)".  That a
    manager starts in such a state is not stated, and is not true of every map of the model: the
    Python manager's global map starts with `self.t`, `self.dt`, which its generator does not know
    (`KeyToUniqueNameMap.__init__` registers a start name only if it begins with the forced prefix) -/
theorem map_stays_injective (m m' : KeyMap) (g g' : Gen) (key : String) (p : Option String)
    (n : List Char) (hi : MapInv m g) (h : getOrMake m g key p = some (m', g', n))
    (hn : g'.caseless = g.caseless) : MapInv m' g' := by
  rcases getOrMake_cases h with ⟨_, rfl, rfl⟩ | ⟨hl, rfl, _, hc⟩
  · exact hi
  · obtain ⟨hfree, htaken, hmono⟩ := gen_fresh g g' _ n hc
    have hnorm : g'.norm = g.norm := by
      funext x
      simp [Gen.norm, hn]
    have hnotmem : ∀ n, (key, n) ∉ m := fun n hn => by
      simpa using List.lookup_eq_none_iff.mp hl _ hn
    refine ⟨?_, ?_, ?_⟩
    · intro k a hmem
      rcases List.mem_cons.mp hmem with e | hmem
      · cases e
        exact htaken
      · exact hmono a (hi.known k a hmem)
    · intro k1 a k2 b h1 h2 heq
      rw [hnorm] at heq
      rcases List.mem_cons.mp h1 with e1 | h1 <;> rcases List.mem_cons.mp h2 with e2 | h2
      · cases e1
        cases e2
        rfl
      · cases e1
        exact absurd heq.symm (norm_ne_of_free hfree (hi.known k2 b h2))
      · cases e2
        exact absurd heq (norm_ne_of_free hfree (hi.known k1 a h1))
      · exact hi.inj k1 a k2 b h1 h2 heq
    · intro k a b h1 h2
      rcases List.mem_cons.mp h1 with e1 | h1 <;> rcases List.mem_cons.mp h2 with e2 | h2
      · cases e1
        cases e2
        rfl
      · cases e1
        exact absurd h2 (hnotmem b)
      · cases e2
        exact absurd h1 (hnotmem a)
      · exact hi.keys k a b h1 h2

/-- Python per-step variables: `local` + identifier characters — a legal identifier that is not a
    keyword (and, starting with `local`, no `self.…` attribute) -/
theorem py_local_legal (g g' : Gen) (x nm : List Char) (hp : g.forcedPrefix = "local".toList)
    (h : g.call (makeIdentifier x) = some (g', nm)) :
    (∃ rest, nm = "local".toList ++ rest ∧ ∀ c ∈ rest, identChar c = true) ∧
    (∀ kw ∈ pyKeywords, nm ≠ kw.toList) := by
  have hsh := call_ident hp (by simp) (sanitised x).2.1 h
  refine ⟨hsh, fun kw hkw heq => ?_⟩
  obtain ⟨rest, rfl, _⟩ := hsh
  have := keyword_not_local kw hkw
  rw [← heq, List.isPrefixOf_iff_prefix.mpr (List.prefix_append _ _)] at this
  cases this

/-- storage class, Python manager: persistent names (and only they) go through the instance map -/
theorem py_storage_class (s s' : PyNames) (n : String) (r : List Char)
    (h : s.step (.var n) = some (s', r)) :
    (Dagrt.Kinds.isState n = true → s'.localM = s.localM ∧ (n, r) ∈ s'.globalM) ∧
    (Dagrt.Kinds.isState n = false → s'.globalM = s.globalM ∧ (n, r) ∈ s'.localM) := by
  simp only [PyNames.step] at h
  split at h
  · rename_i hs
    split at h
    · rename_i hg
      cases h
      exact ⟨fun _ => ⟨rfl, getOrMake_mem hg⟩, fun hf => nomatch hs.symm.trans hf⟩
    · cases h
  · rename_i hs
    split at h
    · rename_i hg
      cases h
      exact ⟨fun ht => absurd ht hs, fun _ => ⟨rfl, getOrMake_mem hg⟩⟩
    · cases h

/-! non-vacuity: names that collide after sanitising, that look generated, that differ in case -/
example : (PyNames.init.step (.var "x")).map (·.2) = some "localx".toList := by decide +kernel
example : makeIdentifier "<cond>a b".toList = "cond_a_b".toList := by decide +kernel
example : counterMatch "localx_007".toList = some ("localx".toList, 7) := by decide +kernel
example : counterMatch "self.global_x_1".toList = none := by decide +kernel

end Dagrt.C13
