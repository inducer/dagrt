import Dagrt.Proofs.StmtProofs
/-!
# C08 — declared read/write sets cover what a statement really touches

Model: `Dagrt.Sem` (`Model/Sem.lean`, `Model/Stmt.lean`): `depVars` = the dependency mapper as
configured by dagrt, `declReads`/`declWrites` = `get_read_variables`/`get_written_variables`
per statement kind, `execI` = `evaluate_condition` + `exec_*` of the interpreter, instrumented
with every store look-up and every store assignment it performs.  All theorems are for every
statement, every store, every interpretation `F` of the function symbols.
-/
namespace Dagrt.C08
open Dagrt Dagrt.Sem

/-- every variable the evaluator looks up is reported by the dependency mapper (short-circuit
    operators and the lazy conditional only ever read fewer) -/
theorem eval_reads_subset (F : Funs) (env : List (Name × Int)) (σ : Store) (e : Expr) :
    ∀ x ∈ (evalI F env σ e).2, x ∈ depVars e := evalI_reads F env σ e

/-- …and the value depends on nothing else -/
theorem agreeOn_reads_eval (F : Funs) (env : List (Name × Int)) (σ σ' : Store) (e : Expr)
    (h : AgreeOn (depVars e) σ σ') : evalI F env σ e = evalI F env σ' e := evalI_agree F env e h

/-- each variable read while executing a statement (guard, right-hand side, subscripts on either
    side, loop bounds, call arguments, yielded value and time) belongs to its declared read set
    or its declared write set (the aggregate of `a[i] <- …`); `<exec>` is the step's own status -/
theorem stmt_reads_covered (F : Funs) (s : Stmt) (σ : Store) :
    ∀ x ∈ (execI F s σ).reads, x = EXEC ∨ x ∈ declReads s ∨ x ∈ declWrites s := by
  intro x hx
  simpa [effR] using execI_reads F s σ x hx

/-- each variable assigned belongs to the declared write set (loop counters are local to the
    statement in the model); only non-assignments touch the execution state -/
theorem stmt_writes_covered (F : Funs) (s : Stmt) (σ : Store) :
    ∀ x ∈ (execI F s σ).writes, x ∈ declWrites s ∨ (x = EXEC ∧ s.kind.isAssignment = false) := by
  intro x hx
  have := execI_writes F s σ x hx
  simp only [effW, List.mem_append] at this
  rcases this with h | h
  · exact Or.inl h
  · right; cases hk : s.kind.isAssignment <;> simp_all

/-- nothing outside the write set changes -/
theorem stmt_frame (F : Funs) (s : Stmt) (σ : Store) (x : Name) (h : x ∉ effW s) :
    (exec F s σ) x = σ x := exec_frame F s σ h

def mapLoops (f : Expr → Expr) : List (Name × Expr × Expr) → List (Name × Expr × Expr)
  | [] => []
  | (i, a, b) :: r => (i, f a, f b) :: mapLoops f r
def mapKw (f : Expr → Expr) : List (Name × Expr) → List (Name × Expr)
  | [] => []
  | (k, e) :: r => (k, f e) :: mapKw f r

/-- `stmt.map_expressions(f)` -/
def mapStmt (f : Expr → Expr) (s : Stmt) : Stmt :=
  { cond := f s.cond,
    kind := match s.kind with
      | .assign lhs sub rhs loops => .assign lhs (sub.map f) (f rhs) (mapLoops f loops)
      | .callAssign lhs g args kw => .callAssign lhs g (args.map f) (mapKw f kw)
      | .yield e t tid c => .yield (f e) (f t) tid c
      | k => k }

theorem mapLoops_id : ∀ l, mapLoops (fun e => e) l = l
  | [] => rfl
  | (i, a, b) :: r => by simp [mapLoops, mapLoops_id r]
theorem mapKw_id : ∀ l, mapKw (fun e => e) l = l
  | [] => rfl
  | (k, e) :: r => by simp [mapKw, mapKw_id r]

/-- the sets are unchanged by mapping the statement's expressions with the identity -/
theorem identity_map_invariant (s : Stmt) :
    declReads (mapStmt (fun e => e) s) = declReads s ∧ declWrites (mapStmt (fun e => e) s) = declWrites s := by
  have : mapStmt (fun e => e) s = s := by
    obtain ⟨c, k⟩ := s
    cases k <;> simp [mapStmt, mapLoops_id, mapKw_id]
  rw [this]; exact ⟨rfl, rfl⟩

/-! the declared sets of `a[j] <- b[i] + 1 [i = 0..n]` under guard `c`: the loop counter `i` is
    declared as read (it occurs in the right-hand side), the aggregate `a` as written only (`effR`
    adds it to the reads) -/
def exS : Stmt := ⟨.var "c", .assign "a" (some (.var "j")) (.sum [.sub (.var "b") (.var "i"), .const (.int 1)])
  [("i", .const (.int 0), .var "n")]⟩
example : declReads exS = ["c", "b", "i", "j", "n"] ∧ declWrites exS = ["a"] := by decide

end Dagrt.C08
