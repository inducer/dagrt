import Dagrt.Proofs.SimplifyShape
/-!
# C06 — control-flow simplification never changes which statements run, or their order

Model: `Dagrt.Simplify` (`Model/Simplify.lean`) = `dagrt.codegen.dag_ast.simplify_ast`.
The statements are over *all* trees (no size bound), *all* valuations `v` of the
condition flags and *all* loop trip counts `it`.
-/
namespace Dagrt.C06
open Dagrt.Simplify

/-- Simplification terminates without an error on every input (Python exceptions
    are `Except.error` values of the model), including programs in which nothing remains. -/
theorem simplify_total (a : Ast) : ∃ a', simplify a = .ok a' :=
  ⟨_, simplify_eq a⟩

/-- The simplified program executes the same sequence of leaf statements as the
    original, for every truth assignment to the flags (and every trip count). -/
theorem simplify_trace (a a' : Ast) (v : Nat → Bool) (it : Nat → Nat)
    (h : simplify a = .ok a') : trace v it a' = trace v it a := by
  rw [simplify_eq_ok h, trace_postTop, trace_simpD, trace_pre]

/-- Each of the three passes preserves the trace on its own (pass 3 with the replacement of a
    null root by the empty block, `postTop`). -/
theorem pre_trace (a : Ast) (v : Nat → Bool) (it : Nat → Nat) :
    trace v it (pre a) = trace v it a := trace_pre v it a
theorem simp_trace (a a' : Ast) (v : Nat → Bool) (it : Nat → Nat) (h : simp a = .ok a') :
    trace v it a' = trace v it a := by
  rw [simpD_of_ok h, trace_simpD]
theorem post_trace (a : Ast) (v : Nat → Bool) (it : Nat → Nat) :
    trace v it (postTop a) = trace v it a := trace_postTop v it a

/-- The result of `simplify_ast` is never the null node (back ends have no case for it). -/
theorem simplify_root_not_null (a a' : Ast) (h : simplify a = .ok a') : isNull a' = false := by
  rw [simplify_eq_ok h]
  exact isNull_postTop _

/-- Shape the back ends rely on: the simplified program contains no null node at all
    (loops, conditionals and blocks whose content vanishes are removed) … -/
theorem simplify_no_null (a a' : Ast) (h : simplify a = .ok a') : noNull a' = true := by
  rw [simplify_eq_ok h]
  exact noNull_postTop (simpD_noIfThen _ (pre_noIfThen a))

/-- … hence the generic walker of the structured back ends (`lower_node`) never meets a node
    it has no case for -/
theorem walker_total (a a' : Ast) (h : simplify a = .ok a') : ∃ evs, walk a' = some evs :=
  walk_total a' (simplify_no_null a a' h)

/-! non-vacuity / regression witnesses (the two defects of the pinned tree, repaired
    by the `fix:` commit, are now instances of the theorems) -/
example : simplify (.block [.null]) = .ok (.block []) := by rfl
example : (match simplify (.block [.leaf 0, .block [.leaf 1, .leaf 2]]) with
    | .ok a' => trace (fun _ => true) (fun _ => 1) a' | .error _ => []) = [0, 1, 2] := by decide
example : (match simplify (.block [.ite (.flag 0) (.leaf 1) .null, .ite (.not (.flag 0)) (.leaf 2) .null,
      .ite (.flag 0) (.leaf 3) .null]) with
    | .ok a' => trace (fun _ => false) (fun _ => 1) a' | .error _ => []) = [2] := by decide

example : simplify (.loop 0 (.ite .ff (.leaf 1) .null)) = .ok (.block []) := by rfl

end Dagrt.C06
