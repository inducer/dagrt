import Dagrt.Proofs.BuilderProofs
import Dagrt.Proofs.Sched
/-!
# C02 — recorded dependencies make every admissible schedule equal to program order

Model: `Dagrt.Builder` (`Model/Builder.lean`) = `CodeBuilder._add_statement`, `if_`/`else_`,
`fresh_var_name`; `Dagrt.Sem` = the statement semantics of C08.  Statement ids are program
positions.  The events yielded so far and the status of the step (running / failed / switched /
raised) are the value of the pseudo-variable `<exec>`, which every statement reads and every
non-assignment writes — the builder's own view of side effects — so "same events, same abort,
same final values" is equality of stores.
Theorems are for every sequence of builder calls, every linear extension of the emitted
dependency lists, every initial store and every (total, pure) interpretation of the functions.
-/
namespace Dagrt.C02
open Dagrt Dagrt.Sem Dagrt.Builder

/-- the emitted statements, in program order -/
def prog (ops : List BOp) : List Stmt := (run ops).out.map (·.1)

/-- what executing statement `i` does to the store -/
def sem (F : Funs) (ops : List BOp) (i : Nat) (σ : Store) : Store :=
  match (prog ops)[i]? with
  | some s => exec F s σ
  | none => σ

/-- dependency edges only point backwards in program order -/
theorem deps_backward (ops : List BOp) : ∀ k d, d ∈ (run ops).core.D k → d < k :=
  (run_ok ops).1.back

/-- every conflict between an earlier statement `i` and a later statement `k` (write/read,
    write/write, read/write on any name — guards, subscripts, loop bounds, call arguments, the
    persistent names a non-assignment is a barrier for, and `<exec>`) is covered by a path of
    recorded dependency edges from `k` back to `i` -/
theorem conflict_reaches (ops : List BOp) : ∀ i k, i < k → k < (run ops).core.n →
    Conflict (run ops).core i k → ∃ d, d ∈ (run ops).core.D k ∧ Reach (run ops).core.D i d :=
  (run_ok ops).1.cr

/-- the `depends_on` attribute of each emitted statement is what the bookkeeping computed -/
theorem emitted_deps (ops : List BOp) (k : Nat) (s : Stmt) (d : List Nat)
    (h : (run ops).out[k]? = some (s, d)) : d = (run ops).core.D k :=
  ((run_ok ops).2.get k (s, d) h).1

theorem prog_length (ops : List BOp) : (prog ops).length = (run ops).core.n := by
  simp [prog, (run_ok ops).2.len]

theorem prog_sets (ops : List BOp) {i : Nat} {s : Stmt} (h : (prog ops)[i]? = some s) :
    effW s = (run ops).core.W i ∧ ∀ x ∈ effR s, x ∈ (run ops).core.R i ∨ x ∈ (run ops).core.W i := by
  simp only [prog, List.getElem?_map, Option.map_eq_some_iff] at h
  obtain ⟨p, hp, rfl⟩ := h
  exact ((run_ok ops).2.get i p hp).2

theorem no_conflict_comm (F : Funs) (ops : List BOp) (a b : Nat)
    (hnc : ¬ Conflict (run ops).core b a) : Sched.Comm (sem F ops) a b := by
  intro σ
  unfold sem
  cases ha : (prog ops)[a]? with
  | none => rfl
  | some sa =>
    cases hb : (prog ops)[b]? with
    | none => rfl
    | some sb =>
      obtain ⟨hWa, hRa⟩ := prog_sets ops ha
      obtain ⟨hWb, hRb⟩ := prog_sets ops hb
      refine exec_comm F sa sb (fun x hx => ?_) (fun x hx => ?_) σ
      · rw [hWa] at hx
        refine ⟨fun hr => hnc ?_, fun hw => hnc (Or.inl ⟨x, hWb ▸ hw, Or.inr hx⟩)⟩
        exact (hRb x hr).elim (fun h => Or.inr ⟨x, h, hx⟩) fun h => Or.inl ⟨x, h, Or.inr hx⟩
      · rw [hWb] at hx
        exact ⟨fun hr => hnc (Or.inl ⟨x, hx, hRa x hr⟩), fun hw => hnc (Or.inl ⟨x, hx, Or.inr (hWa ▸ hw)⟩)⟩

/-- **Main theorem.** Executing the emitted statements in ANY order that is a permutation of the
    statements and respects the recorded dependency edges gives the same store — hence the same
    events, the same failure / phase switch / raised error and the same final value of every
    variable — as executing them in the order they were written. -/
theorem any_schedule_eq_program_order (ops : List BOp) (F : Funs) (π : List Nat) (σ : Store)
    (hperm : π.Perm (List.range (prog ops).length))
    (hlin : LinExt (run ops).core.D π) :
    Sched.exec (sem F ops) π σ = Sched.exec (sem F ops) (List.range (prog ops).length) σ := by
  apply Sched.exec_eq_range _ _ _ _ hperm
  refine (hlin.pairwise (hperm.nodup_iff.mpr List.nodup_range)).imp_of_mem ?_
  intro a b ha _ hnr hlt
  -- `a` runs before `b < a` and does not depend on it: they do not conflict
  refine fun σ => no_conflict_comm F ops a b (fun hc => ?_) σ
  have han : a < (run ops).core.n := by
    rw [← prog_length]
    exact List.mem_range.mp (hperm.mem_iff.mp ha)
  obtain ⟨d, hd, hr⟩ := conflict_reaches ops b a hlt han hc
  exact hnr (.step hd hr)

/-- names handed out by the builder: a name returned by `fresh_var_name` was not in use, unless the
    builder had failed before or the search for a name fails … -/
theorem fresh_not_seen (st : BState) (p : Name) (h : (freshVar st p).1.failed = st.failed) :
    (freshVar st p).2 ∉ st.seen ∨ st.failed ≠ none ∨ (freshVar st p).1.failed ≠ none := by
  unfold freshVar
  cases hs : freshSearch st.seen p (st.seen.length + 2) (genCount st.gens p) with
  | none => exact Or.inr (Or.inr (by simp))
  | some r => exact Or.inl (freshSearch_spec _ _ _ _ _ _ hs).2

/-- … and joins the seen set, so that it is never handed out (or chosen as a flag name) again -/
theorem fresh_joins_seen (st : BState) (p : Name) (h : (freshVar st p).1.failed = none) :
    (freshVar st p).2 ∈ (freshVar st p).1.seen := by
  unfold freshVar at h ⊢
  split
  · simp
  · rename_i hs; simp [hs] at h

/-- statements emitted inside `else_` are guarded by the negation of the flag of the `if_` block
    closed immediately before -/
theorem else_negates_last_if (st : BState) (c : Expr) (h : st.lastIf = some c) :
    (step st .elseBegin).condStack = st.condStack ++ [.lnot c] := by
  simp [step, h]

/-! non-vacuity: `j <- 2; a[j] <- 1; y <- a[0]` — the conflict on `j` (read only in the
    subscript of a left-hand side) is an edge -/
def exOps : List BOp := [
  .stmt (.assign "j" none (.const (.int 2)) []),
  .stmt (.assign "a" (some (.var "j")) (.const (.int 1)) []),
  .stmt (.assign "y" none (.sub (.var "a") (.const (.int 0))) [])]
example : (run exOps).out.map (·.2) = [[], [0], [1]] := by decide

end Dagrt.C02
