import Dagrt.Proofs.FuseProofs
import Dagrt.Proofs.RenameProofs
/-!
# C16 — fusing two methods runs both on shared persistent state without interference

Model: `Dagrt.Fuse` (`Model/Fuse.lean`) = `fuse_two_phases` with pymbolic's
`disambiguate_identifiers` and `fuse_statement_streams_with_unique_ids` and the name generator
model of C13.  `clash` = the iteration order of the set of names used by both methods (any
order); the second statement list is in any order.  Theorems are for all pairs of statement
lists, every renaming predicate, every such order.
The behavioural clause: `renamed_method_computes_the_same` / `fused_second_method_runs_as_alone` -
renaming commutes with execution (`Sem.exec_renameP`, the substitution lemma for the whole statement
semantics, over a statement list: `runList_renameP`), so the renamed second method, run in the fused store, computes under the new names
exactly what the second method computes alone under the old ones - in particular the same
persistent variables, events and status.  `fused_first_method_results` and
`fused_second_method_results` put the two halves together for one order (the first method's
statements, then the renamed second method's) and a renaming that is injective on ALL names.
The renaming fusion itself computes is injective on the names in use only (it sends both `a` and
the fresh `a_0` to `a_0`): `fusion_renaming_injective`, `fusion_second_method_runs_as_alone`.
Other schedules of the fused method are left to the failing-input search with the real interpreter.
-/
namespace Dagrt.C16
open Dagrt Dagrt.Sem Dagrt.Names Dagrt.Fuse

/-- initial generator of `disambiguate_identifiers`: knows every name of both methods -/
def vng0 (A B : List FStmt) : Gen := ⟨(usedIdents A ++ usedIdents B).map String.toList, [], [], false⟩

theorem vng0_conflicting (A B : List FStmt) (x : Name) (h : x ∈ usedIdents A ++ usedIdents B) :
    (vng0 A B).conflicting x.toList = true :=
  (conflicting_iff_mem _ rfl _).mpr (List.mem_map_of_mem h)

/-- names for which the caller's predicate says "do not rename" (by default: persistent
    variables, `<t>`, `<dt>`) occur unchanged in the fused second method -/
theorem persistent_unrenamed (pred : Name → Bool) (clash : List Name) (A B : List FStmt)
    (sub : List (Name × Name)) (h : disambiguate pred clash (vng0 A B) [] = some sub)
    (x : Name) (hx : pred x = false) : applySubst sub x = x := by
  refine applySubst_of_not_key fun hk => ?_
  rw [(disambiguate_ok h).1, List.mem_filter, hx] at hk
  exact Bool.noConfusion hk.2

/-- every renamed name is new: it is used by neither method -/
theorem renamed_is_fresh (pred : Name → Bool) (clash : List Name) (A B : List FStmt)
    (sub : List (Name × Name)) (h : disambiguate pred clash (vng0 A B) [] = some sub) :
    ∀ p ∈ sub, p.2 ∉ usedIdents A ++ usedIdents B := by
  intro p hp hmem
  exact Bool.noConfusion (((disambiguate_ok h).2.1 p hp).symm.trans (vng0_conflicting A B p.2 hmem))

/-- **Temporaries are disjoint.** A name used by the fused second method and also by the first
    method is one the predicate declined to rename — with the default predicate: a persistent
    name.  (`hclash`: the clash list contains every name used by both.) -/
theorem temporaries_disjoint (pred : Name → Bool) (clash : List Name) (A B : List FStmt)
    (sub : List (Name × Name)) (h : disambiguate pred clash (vng0 A B) [] = some sub)
    (hclash : ∀ x, x ∈ usedIdents A → x ∈ usedIdents B → x ∈ clash)
    (n : Name)
    (hn : n ∈ usedIdents (B.map fun b => { b with stmt := renameStmt (applySubst sub) b.stmt }))
    (ha : n ∈ usedIdents A) : pred n = false ∧ n ∈ usedIdents B := by
  rw [usedIdents_rename] at hn
  obtain ⟨x, hx, rfl⟩ := List.mem_map.mp hn
  rcases applySubst_cases sub x with ⟨hk, he⟩ | hm
  · -- `x` is no key although both methods use it: the predicate did not select it
    rw [he] at ha ⊢
    rw [(disambiguate_ok h).1, List.mem_filter] at hk
    exact ⟨by simpa [hclash x ha hx] using hk, hx⟩
  · -- `x` was renamed to a new name, which the first method cannot use
    exact absurd (List.mem_append_left _ ha) (renamed_is_fresh pred clash A B sub h _ hm)

/-- **Ids are unique** in the fused phase (given that each method's ids are), the first method's
    statements are untouched and come first, and the second method contributes as many statements
    as it has -/
theorem ids_unique (pred : Name → Bool) (clash : List Name) (A B out : List FStmt)
    (h : fuse pred clash A B = some out) (hA : (A.map (·.id)).Nodup) :
    (out.map (·.id)).Nodup ∧ ∃ B2, out = A ++ B2 ∧ B2.length = B.length := by
  obtain ⟨m, B2, ho, hids, hnd, hna, hlen, _⟩ := fuse_shape pred clash A B out h
  refine ⟨?_, B2, ho, ?_⟩
  · rw [ho, List.map_append, List.nodup_append, hids]
    refine ⟨hA, hnd, fun a ha b hb e => ?_⟩
    obtain ⟨p, hp, rfl⟩ := List.mem_map.mp hb
    exact hna p hp (e ▸ ha)
  · rw [← hlen]; simpa using congrArg List.length hids

/-- **Dependencies are translated, not lost or mixed**: every dependency of a fused
    second-method statement is the new id of the corresponding old dependency (so the sub-graph is
    the image of the original one under the id map), and it is an id of the second part -/
theorem deps_translated (pred : Name → Bool) (clash : List Name) (A B out : List FStmt)
    (h : fuse pred clash A B = some out) :
    ∃ (m : List (List Char × List Char)) (B2 : List FStmt), out = A ++ B2 ∧ B2.map (·.id) = m.map (·.2) ∧
      ∀ (k : Nat) (r b : FStmt), B2[k]? = some r → B[k]? = some b →
        r.deps.length = b.deps.length ∧
        ∀ (j : Nat) (d d' : List Char), b.deps[j]? = some d → r.deps[j]? = some d' → (d, d') ∈ m ∧ d' ∈ B2.map (·.id) := by
  obtain ⟨m, B2, ho, hids, _, _, _, hdeps⟩ := fuse_shape pred clash A B out h
  refine ⟨m, B2, ho, hids, fun k r b hk hbk => ?_⟩
  have hsp := remapDeps_spec m b.deps r.deps (hdeps k r b hk hbk)
  refine ⟨hsp.1, fun j d d' hd hd' => ?_⟩
  have hmem := lookupId_mem m d d' (hsp.2 j d d' hd hd')
  exact ⟨hmem, hids ▸ List.mem_map.mpr ⟨(d, d'), hmem, rfl⟩⟩

/-- a list of statements executed one after another (any schedule of a method's statements) -/
def runList (F : Funs) (l : List Stmt) (σ : Store) : Store := l.foldl (fun σ s => exec F s σ) σ

/-- `exec_renameP` over a list of statements.  The theorems below about an everywhere-injective
    renaming are the case `P := fun _ => True`; fusion's own renaming, injective on the names in use
    only, is the case `P := (· ∈ namesInUse A B)` (`fusion_second_method_runs_as_alone`). -/
theorem runList_renameP {F : Funs} {ρ : Name → Name} {P : Name → Prop} (hinj : InjP ρ P)
    (hF : ∀ f vs ks, F (ρ f) vs ks = F f vs ks) (hexec : ρ EXEC = EXEC) (hE : P EXEC) (l : List Stmt)
    (hl : ∀ s ∈ l, ∀ x ∈ stmtNames s, P x) {σ σ' : Store} (h : RelP ρ P σ σ') :
    RelP ρ P (runList F l σ) (runList F (l.map (renameStmt ρ)) σ') := by
  rw [runList, runList, List.foldl_map]
  exact List.foldl_rel h fun s hs _ _ => exec_renameP hinj hF hexec hE s (hl s hs)

/-- **The renamed method computes the same**, statement list by statement list: for every
    injective renaming that leaves the event pseudo-variable and the meaning of function symbols
    alone, every statement list, every pair of stores that correspond through the renaming -/
theorem renamed_method_computes_the_same (F : Funs) (ρ : Name → Name) (hinj : ∀ x y, ρ x = ρ y → x = y)
    (hF : ∀ f vs ks, F (ρ f) vs ks = F f vs ks) (hexec : ρ EXEC = EXEC) :
    ∀ (l : List Stmt) (σ σ' : Store), Rel ρ σ σ' → Rel ρ (runList F l σ) (runList F (l.map (renameStmt ρ)) σ') :=
  fun l _ _ h => rel_iff_relP.2 (runList_renameP (P := fun _ => True) (fun x _ y _ => hinj x y) hF hexec trivial l
    (fun _ _ _ _ => trivial) (rel_iff_relP.1 h))

/-- **In the fused method the second method runs as it runs alone**: whatever store `σ1` the first
    method leaves, the renamed second method turns it into a store that holds, under the new names,
    exactly what the second method alone makes of `σ1` read through the renaming - for a renaming
    that is injective on all names; for the one fusion computes see
    `fusion_second_method_runs_as_alone` -/
theorem fused_second_method_runs_as_alone (F : Funs) (ρ : Name → Name) (hinj : ∀ x y, ρ x = ρ y → x = y)
    (hF : ∀ f vs ks, F (ρ f) vs ks = F f vs ks) (hexec : ρ EXEC = EXEC) (B : List Stmt) (σ1 : Store) :
    Rel ρ (runList F B (fun x => σ1 (ρ x))) (runList F (B.map (renameStmt ρ)) σ1) :=
  renamed_method_computes_the_same F ρ hinj hF hexec B _ σ1 (fun _ => rfl)

/-- in particular every variable the renaming leaves alone - the persistent variables, time and step
    size under the default predicate (`persistent_unrenamed`) - ends with the value the second method
    alone gives it, and the events and the status of the step are the same -/
theorem fused_second_method_persistent_results (F : Funs) (ρ : Name → Name) (hinj : ∀ x y, ρ x = ρ y → x = y)
    (hF : ∀ f vs ks, F (ρ f) vs ks = F f vs ks) (hexec : ρ EXEC = EXEC) (B : List Stmt) (σ1 : Store)
    (x : Name) (hx : ρ x = x) :
    runList F (B.map (renameStmt ρ)) σ1 x = runList F B (fun y => σ1 (ρ y)) x := by
  have := fused_second_method_runs_as_alone F ρ hinj hF hexec B σ1 x
  rwa [hx] at this

theorem runList_append (F : Funs) (l₁ l₂ : List Stmt) (σ : Store) :
    runList F (l₁ ++ l₂) σ = runList F l₂ (runList F l₁ σ) := List.foldl_append

theorem runList_frame (F : Funs) (l : List Stmt) (σ : Store) (x : Name) (h : ∀ s ∈ l, x ∉ effW s) :
    runList F l σ x = σ x :=
  List.foldlRecOn (motive := fun τ => τ x = σ x) l _ rfl fun τ hτ s hs => (exec_frame F s τ (h s hs)).trans hτ

theorem runList_agree (F : Funs) (S : List Name) (l : List Stmt) (σ σ' : Store)
    (hS : ∀ s ∈ l, (∀ x ∈ effR s, x ∈ S) ∧ (∀ x ∈ effW s, x ∈ S)) (h : AgreeOn S σ σ') :
    AgreeOn S (runList F l σ) (runList F l σ') :=
  List.foldl_rel h fun s hs _ _ => exec_agree F s (hS s hs).1 (hS s hs).2

/-- **First method in the fused run**: a variable that no renamed statement of the second method
    declares as written ends with the value the first method alone gives it -/
theorem fused_first_method_results (F : Funs) (ρ : Name → Name) (A B : List Stmt) (σ0 : Store) (x : Name)
    (hx : ∀ s ∈ B.map (renameStmt ρ), x ∉ effW s) :
    runList F (A ++ B.map (renameStmt ρ)) σ0 x = runList F A σ0 x := by
  rw [runList_append]
  exact runList_frame F _ _ x hx

/-- `fused_second_method_results` for a renaming that is injective on `P` only, where `P` holds of
    the second method's names, of `S` and of `<exec>` -/
theorem fused_second_method_resultsP {F : Funs} {ρ : Name → Name} {P : Name → Prop} (hinj : InjP ρ P)
    (hF : ∀ f vs ks, F (ρ f) vs ks = F f vs ks) (hexec : ρ EXEC = EXEC) (hE : P EXEC) (A B : List Stmt)
    (σ0 : Store) (hB : ∀ s ∈ B, ∀ x ∈ stmtNames s, P x) (S : List Name) (hSP : ∀ x ∈ S, P x)
    (hS : ∀ s ∈ B, (∀ x ∈ effR s, x ∈ S) ∧ (∀ x ∈ effW s, x ∈ S)) (hdisj : ∀ x ∈ S, ∀ s ∈ A, ρ x ∉ effW s) :
    ∀ x ∈ S, runList F (A ++ B.map (renameStmt ρ)) σ0 (ρ x) = runList F B (fun y => σ0 (ρ y)) x := by
  intro x hx
  rw [runList_append, runList_renameP hinj hF hexec hE B hB (σ := fun y => runList F A σ0 (ρ y)) (fun _ _ => rfl) x
    (hSP x hx)]
  -- through the renaming, the store the first method leaves agrees with the initial store on `S`
  exact runList_agree F S B _ _ hS (fun y hy => runList_frame F A σ0 (ρ y) (hdisj y hy)) x hx

/-- **Second method in the fused run, as alone from the same start**: if no name the second method
    declares (read or written) is written by the first method - the two write disjoint persistent
    variables, the second does not read what the first writes, temporaries are disjoint - then every
    name `x` the second method declares ends, under its new name, with the value the second method
    ALONE gives it when started from the same initial store (read through the renaming).
    Every statement reads `<exec>`, so `S` contains it as soon as `B` has a statement, and `hdisj`
    then excludes every statement of the first method that writes `<exec>`: the first method may
    consist of assignments only (no yield, fail, raise, switch). -/
theorem fused_second_method_results (F : Funs) (ρ : Name → Name) (hinj : ∀ x y, ρ x = ρ y → x = y)
    (hF : ∀ f vs ks, F (ρ f) vs ks = F f vs ks) (hexec : ρ EXEC = EXEC) (A B : List Stmt) (σ0 : Store)
    (S : List Name) (hS : ∀ s ∈ B, (∀ x ∈ effR s, x ∈ S) ∧ (∀ x ∈ effW s, x ∈ S))
    (hdisj : ∀ x ∈ S, ∀ s ∈ A, ρ x ∉ effW s) :
    ∀ x ∈ S, runList F (A ++ B.map (renameStmt ρ)) σ0 (ρ x) = runList F B (fun y => σ0 (ρ y)) x :=
  fused_second_method_resultsP (P := fun _ => True) (fun x _ y _ => hinj x y) hF hexec trivial A B σ0
    (fun _ _ _ _ => trivial) S (fun _ _ => trivial) hS hdisj

/-- the names in play: what either method uses, and the event pseudo-variable -/
def namesInUse (A B : List FStmt) : List Name := usedIdents A ++ usedIdents B ++ [EXEC]

/-- **fusion's renaming is injective on the names in use**: replacements are fresh and pairwise
    different; that no replacement is spelled `<exec>` is assumed (`hE`) -/
theorem fusion_renaming_injective (pred : Name → Bool) (clash : List Name) (A B : List FStmt)
    (sub : List (Name × Name)) (h : disambiguate pred clash (vng0 A B) [] = some sub)
    (hE : ∀ p ∈ sub, p.2 ≠ EXEC) :
    ∀ x ∈ namesInUse A B, ∀ y ∈ namesInUse A B, applySubst sub x = applySubst sub y → x = y := by
  apply applySubst_injOn sub (disambiguate_ok h).2.2
  intro p hp hmem
  simp only [namesInUse, List.mem_append, List.mem_singleton] at hmem
  rcases hmem with hm | hm
  · exact renamed_is_fresh pred clash A B sub h p hp (by simpa using hm)
  · exact hE p hp hm

/-- **The second method inside the fused method, with the renaming fusion computes**: every list of
    statements all of whose names (`stmtNames`: loop counters included) are names in use, run
    after whatever the first method left in the store, ends in a store that holds under the new
    names exactly what the statements ALONE make of that store read through the renaming.
    Injectivity is not assumed but proved of the model's `disambiguate`
    (`fusion_renaming_injective`); assumed are: no replacement is `<exec>` (`hE`), `<exec>` is no
    clash name (`hEc`), `F` gives a function symbol and its replacement the same meaning (`hF`). -/
theorem fusion_second_method_runs_as_alone (pred : Name → Bool) (clash : List Name) (A B : List FStmt)
    (sub : List (Name × Name)) (h : disambiguate pred clash (vng0 A B) [] = some sub)
    (hE : ∀ p ∈ sub, p.2 ≠ EXEC) (hEc : EXEC ∉ clash)
    (F : Funs) (hF : ∀ f vs ks, F (applySubst sub f) vs ks = F f vs ks) :
    ∀ (l : List Stmt), (∀ s ∈ l, ∀ x ∈ stmtNames s, x ∈ namesInUse A B) → ∀ (σ σ' : Store),
      RelOn (applySubst sub) (namesInUse A B) σ σ' →
      RelOn (applySubst sub) (namesInUse A B) (runList F l σ) (runList F (l.map (renameStmt (applySubst sub))) σ') := by
  have hexec : applySubst sub EXEC = EXEC := applySubst_of_not_key fun hk => by
    rw [(disambiguate_ok h).1, List.mem_filter] at hk
    exact hEc hk.1
  exact fun l hn _ _ hr => runList_renameP (P := (· ∈ namesInUse A B)) (fusion_renaming_injective pred clash A B sub h hE)
    hF hexec (List.mem_append_right _ List.mem_cons_self) l hn hr

/-! test data: two methods that both use the temporary `a` and the id `p_0` and read `<t>`; the
    second is guarded by the flag `<cond>`.  The example evaluates `usedIdents` of the first only. -/
def exA : List FStmt := [⟨"p_0".toList, [], ⟨.const (.bool true), .assign "a" none (.var "<t>") []⟩⟩]
def exB : List FStmt := [⟨"p_0".toList, [], ⟨.var "<cond>", .assign "a" none (.sum [.var "a", .var "<t>"]) []⟩⟩,
                         ⟨"p_1".toList, ["p_0".toList], ⟨.const (.bool true), .assign "<state>z" none (.var "a") []⟩⟩]
example : usedIdents exA = ["<t>", "a"] := by decide

end Dagrt.C16
