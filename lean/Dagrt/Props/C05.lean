import Dagrt.Proofs.LowerProofs
import Dagrt.Props.C06
/-!
# C05 — lowering a phase to structured code keeps order, guards and loops

Model: `Dagrt.Lower` (`Model/Lower.lean`) = `create_ast_from_phase` (iterative DFS over sorted
ids, guard-outermost wrapping around the loops, no-ops dropped) composed with the C06 model of `simplify_ast`
and the walker `lower_node`.  `LWF p`: ids unique, dependencies resolve inside the phase, a
rank function exists.  The last two are what the verifier establishes for accepted methods
(`C10.accept_implies_consumers_safe`, stated over the verifier's own statement records: no lemma
relates them to `Lower.LStmt`); unique ids are a hypothesis of C10 as well.
Semantics: `trace v it a` = the leaves executed under flag valuation `v` and trip counts `it`.
-/
namespace Dagrt.C05
open Dagrt.Lower Dagrt.Simplify
open Dagrt.Verify (Topo)

/-- the topological sort terminates; its result lists every statement of the phase exactly
    once, each after all statements it depends on -/
theorem topo_perm_and_sorted {p : Phase} (wf : LWF p) :
    ∃ o, topoOrder p = .ok o ∧ o.Nodup ∧ (∀ i, i ∈ o ↔ i ∈ ids p) ∧
      ∀ pre u post, o = pre ++ u :: post → ∀ s ∈ p, s.id = u → ∀ d ∈ s.deps, d ∈ pre := by
  obtain ⟨o, hok, htopo, hnd, hall⟩ := topoOrder_full wf
  refine ⟨o, hok, hnd, hall, ?_⟩
  rintro pre _ post hsplit s hs rfl d hd
  exact htopo pre s.id post hsplit d ((mem_sortedDeps wf.nodup hs).mpr hd)

theorem createAst_eq_ok {p : Phase} {a : Ast} :
    createAst p = .ok a ↔
      ∃ o blk, topoOrder p = .ok o ∧ mainBlock p o = .ok blk ∧ simplify (.block blk) = .ok a := by
  constructor
  · intro h
    unfold createAst at h
    simp only [bind, Except.bind] at h
    split at h
    · cases h
    · rename_i o ho
      split at h
      · cases h
      · rename_i blk hb
        split at h
        · rename_i a' hs
          cases h
          exact ⟨o, blk, ho, hb, hs⟩
        · cases h
  · rintro ⟨o, blk, ho, hb, hs⟩
    simp only [createAst, ho, hb, hs, bind, Except.bind]

/-- lowering never fails on a well-formed phase -/
theorem createAst_total {p : Phase} (wf : LWF p) : ∃ a, createAst p = .ok a := by
  obtain ⟨o, hok, _, _, hall⟩ := topoOrder_full wf
  obtain ⟨blk, hblk⟩ := mainBlock_total p o (fun i hi => known_iff.mpr ((hall i).mp hi))
  obtain ⟨a, ha⟩ := Dagrt.C06.simplify_total (.block blk)
  exact ⟨a, createAst_eq_ok.mpr ⟨o, blk, hok, hblk, ha⟩⟩

/-- For every guard valuation and all trip counts, the structured program executes exactly:
    for each statement in the topological order, nothing if it is a no-op or its guard is
    false, else its id once per iteration vector of exactly its declared loops. -/
theorem leaf_trace {p : Phase} {a : Ast} (h : createAst p = .ok a) (v : Nat → Bool) (it : Nat → Nat) :
    ∃ o, topoOrder p = .ok o ∧ trace v it a = orderTrace p v it o := by
  obtain ⟨o, blk, ho, hb, hs⟩ := createAst_eq_ok.mp h
  refine ⟨o, ho, ?_⟩
  rw [Dagrt.C06.simplify_trace _ _ v it hs]
  exact mainBlock_trace p v it o blk hb

/-- the structured program handed to the back ends contains no node the generic walker has no
    case for -/
theorem lowered_program_walkable {p : Phase} {a : Ast} (h : createAst p = .ok a) :
    ∃ evs, walk a = some evs := by
  obtain ⟨_, blk, _, _, hs⟩ := createAst_eq_ok.mp h
  exact Dagrt.C06.walker_total _ _ hs

/-! ### the result does not depend on the order in which the statements are stored

`createAst p` reads `p` only through `lookup p`, `sinks p` and `topoFuel p`; with unique ids
none of the three depends on the storage order. -/

theorem lookup_perm_some {p p' : Phase} (hp : p.Perm p') (hnd' : (ids p').Nodup) {i : Nat} {s : LStmt}
    (h : lookup p i = some s) : lookup p' i = some s := by
  obtain ⟨hs, rfl⟩ := lookup_mem h
  exact lookup_of_nodup hnd' s (hp.mem_iff.mp hs)

theorem lookup_perm {p p' : Phase} (hp : p.Perm p') (hnd : (ids p).Nodup) : lookup p = lookup p' := by
  have hnd' : (ids p').Nodup := hnd.perm (hp.map _)
  funext i
  exact Option.ext fun s => ⟨lookup_perm_some hp hnd', lookup_perm_some hp.symm hnd⟩

theorem isort_eq_of_perm {l l' : List Nat} (h : l.Perm l') : isort l = isort l' :=
  List.Perm.eq_of_pairwise (fun _ _ _ _ h1 h2 => Nat.le_antisymm h1 h2) (isort_sorted l)
    (isort_sorted l') ((isort_perm l).trans (h.trans (isort_perm l').symm))

theorem sinks_perm {p p' : Phase} (hp : p.Perm p') (hnd : (ids p).Nodup) : sinks p = sinks p' := by
  have hi : (ids p).Perm (ids p') := hp.map _
  have hd : ∀ i, (allDeps p).contains i = (allDeps p').contains i :=
    fun _ => (hp.flatMap_right (·.deps)).contains_eq
  unfold sinks
  simp only [hd]
  rw [eraseDups_of_nodup hnd, eraseDups_of_nodup (hnd.perm hi)]
  exact isort_eq_of_perm (hi.filter _)

theorem sortedDeps_congr {p p' : Phase} (h : lookup p = lookup p') : sortedDeps p = sortedDeps p' := by
  funext i
  unfold sortedDeps
  rw [h]

theorem trun_congr {p p' : Phase} (h : lookup p = lookup p') : trun p = trun p' := by
  funext f
  induction f with
  | zero => rfl
  | succ f ih =>
    funext s
    unfold trun tstep
    rw [h, ih]

theorem mainBlock_congr {p p' : Phase} (h : lookup p = lookup p') : mainBlock p = mainBlock p' := by
  funext o
  induction o with
  | nil => rfl
  | cons i is ih =>
    unfold mainBlock
    rw [h, ih]

theorem topoFuel_perm {p p' : Phase} (hp : p.Perm p') (hnd : (ids p).Nodup) : topoFuel p = topoFuel p' := by
  have hi : (ids p).Perm (ids p') := hp.map _
  unfold topoFuel Dagrt.Verify.cost
  rw [sinks_perm hp hnd, sortedDeps_congr (lookup_perm hp hnd), hi.length_eq,
    eraseDups_of_nodup hnd, eraseDups_of_nodup (hnd.perm hi), ((hi.filter _).map _).sum_nat]

/-- The general fact.  `storage_order_irrelevant` below is the form the property states; of its
    `LWF p` only the uniqueness of the ids is used. -/
theorem createAst_perm {p p' : Phase} (hp : p.Perm p') (hnd : (ids p).Nodup) :
    createAst p = createAst p' := by
  have hl := lookup_perm hp hnd
  unfold createAst topoOrder
  rw [topoFuel_perm hp hnd, sinks_perm hp hnd, trun_congr hl, mainBlock_congr hl]

/-- storing the statements of a well-formed phase in a different order gives the identical
    structured program -/
theorem storage_order_irrelevant {p p' : Phase} (hp : p.Perm p') (wf : LWF p) :
    createAst p = createAst p' :=
  createAst_perm hp wf.nodup

/-! non-vacuity: ids whose sorted order is not topological, a guard, a loop, a no-op -/
def exP : Phase := [⟨2, [], false, none, []⟩, ⟨0, [2, 1], false, some (.flag 0), [1]⟩, ⟨1, [2], true, none, []⟩]
example : topoOrder exP = .ok [2, 1, 0] := by decide
example : createAst exP = .ok (.block [.leaf 2, .ifThen (.flag 0) (.loop 1 (.leaf 0))]) := by rfl
example : LWF exP := ⟨by decide, by decide, fun i => 2 - i, by decide⟩

end Dagrt.C05
