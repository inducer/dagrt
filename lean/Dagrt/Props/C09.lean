import Dagrt.Proofs.CallStmtProofs
import Dagrt.Proofs.RtProofs
import Dagrt.Proofs.KindLoopProofs
/-!
# C09 — inferred kinds agree with the values computed at run time

Models: `Dagrt.Kinds` (`Model/Kinds.lean`, `Model/Builtins.lean`) = the kind rules, the table,
the built-ins' declared result kinds; `Model/RtKinds.lean` = the run-time kinds of Python/NumPy
values and how the evaluator combines them (validated against the real interpreter by the
correspondence run).  `compat v k`: a value of run-time kind `v` is of declared kind `k`
(int ⊑ real ⊑ complex, scalars may initialise array / user-type variables, never complex where
real is claimed).
Hypothesis `good`: nothing raises at run time, constants are numbers or flags, a quotient of two
ints is not of Integer kind, and - only outside check mode - every term of a sum is inferable (in
check mode, which the final consistency pass uses since the `fix:` commit, an uninferable term is an
error).  The exclusions on constants and quotients are real gaps of the code (known findings): a
`None` or string constant gets the kind Scalar(real) (a flag constant gets Boolean, a number its
own kind); `i / j` of two loop counters is declared Integer but Python's true division yields a
float.  The run-time model combines base and exponent of a power like the factors of a product;
what Python does beyond that (an int to a negative power is a float, a negative base to a
fractional power is complex) is not modelled, and no theorem here has a hypothesis about it.
-/
namespace Dagrt.C09
open Dagrt Dagrt.Kinds

/-- **Per-operator soundness.** If the table describes the current values and the registry's
    declared result kinds describe what the functions return, then the kind inferred for an
    expression describes the value it evaluates to — for every expression, table and valuation. -/
theorem infer_sound (chk : Bool) (reg : Registry) (t : Table) (ph : Name) (F : RtFuns) (ρ : Name → Rt)
    (hT : TableCompat t ph ρ) (hR : RegSound reg F) (e : Expr) (k : Kind)
    (hg : good chk reg t ph F ρ e = true) (h : infer chk reg t ph e = .ok k) :
    compat (rtEval F ρ e) k = true :=
  Dagrt.Kinds.infer_sound chk reg t ph F ρ hT hR e k hg h

/-- in particular a value is never complex where the inferred kind claims real -/
theorem never_complex_where_real (chk : Bool) (reg : Registry) (t : Table) (ph : Name) (F : RtFuns) (ρ : Name → Rt)
    (hT : TableCompat t ph ρ) (hR : RegSound reg F) (e : Expr) (r : Bool)
    (hg : good chk reg t ph F ρ e = true)
    (h : infer chk reg t ph e = .ok (.scalar r) ∨ infer chk reg t ph e = .ok (.array r)) (hr : r = true) :
    rtEval F ρ e ≠ .cplx ∧ rtEval F ρ e ≠ .arr true := by
  subst hr
  rcases h with h | h <;> have := infer_sound chk reg t ph F ρ hT hR e _ hg h <;>
    constructor <;> intro he <;> rw [he] at this <;> simp [compat] at this

/-- **Invariant under assignment.** If the table is a post-fix-point for the statement
    `lhs <- e` (the inferred kind of `e` is below the table's kind of `lhs`), executing it keeps
    the table a description of the store. -/
theorem assign_preserves (chk : Bool) (reg : Registry) (t : Table) (ph : Name) (F : RtFuns) (ρ : Name → Rt)
    (hT : TableCompat t ph ρ) (hR : RegSound reg F) (lhs : Name) (e : Expr) (k : Kind)
    (hg : good chk reg t ph F ρ e = true) (h : infer chk reg t ph e = .ok k)
    (hpost : ∀ k', lookupVar t ph lhs = some k' → k = k' ∨ unifyK k k' = .ok k') :
    TableCompat t ph (fun x => if x = lhs then rtEval F ρ e else ρ x) :=
  tableCompat_update hT fun kx hx =>
    compat_le _ k kx (infer_sound chk reg t ph F ρ hT hR e k hg h) (le_some_iff.mpr (hpost kx hx))

def rtUniverse : List Rt := [.bool, .int, .real, .cplx, .arr false, .arr true, .user "a", .user "b"]
def kindUniverse : List (Option Kind) := [none, some .boolean, some .integer, some (.scalar true), some (.scalar false),
  some (.array true), some (.array false), some (.user "a"), some (.user "b")]
def builtins1 : List Name := ["<builtin>norm_1", "<builtin>norm_2", "<builtin>norm_inf", "<builtin>len",
  "<builtin>isnan", "<builtin>elementwise_abs", "<builtin>array"]

def outOk : List Rt → List Kind → Bool
  | [], [] => true
  | r :: rs, k :: ks => (compat r k || r == .err) && outOk rs ks
  | _, _ => false

/-- **Built-ins.** Declared result kinds vs. what the Python implementations return, for every
    argument whose run-time kind is compatible with the kind the inference saw (finite table over
    the kind universe with user types `a`, `b`; identifiers matter only through equality). -/
theorem builtin_kinds_sound :
    [true, false].all (fun chk => builtins1.all fun f => rtUniverse.all fun r => kindUniverse.all fun k =>
      !(match k with | none => true | some k' => compat r k') ||
      (match builtin f, rtBuiltin f [r] [] with
      | some fn, some rts => (match fn chk [k] [] with | .ok out => outOk rts out | .error _ => true)
      | _, _ => false)) = true := by decide +kernel

theorem dot_product_sound :
    [true, false].all (fun chk => rtUniverse.all fun r1 => rtUniverse.all fun r2 => kindUniverse.all fun k1 => kindUniverse.all fun k2 =>
      !((match k1 with | none => true | some k' => compat r1 k') && (match k2 with | none => true | some k' => compat r2 k')) ||
      match builtin "<builtin>dot_product", rtBuiltin "<builtin>dot_product" [r1, r2] [] with
      | some fn, some rts => (match fn chk [k1, k2] [] with | .ok out => outOk rts out | .error _ => true)
      | _, _ => false) = true := by decide +kernel

/-- matrix built-ins (column counts: an int value of kind Scalar(real), as constants are inferred) -/
theorem matrix_builtins_sound :
    [true, false].all (fun chk => ["<builtin>matmul", "<builtin>linear_solve"].all fun f =>
      rtUniverse.all fun r1 => rtUniverse.all fun r2 => kindUniverse.all fun k1 => kindUniverse.all fun k2 =>
      !((match k1 with | none => true | some k' => compat r1 k') && (match k2 with | none => true | some k' => compat r2 k')) ||
      match builtin f, rtBuiltin f [r1, r2, .int, .int] [] with
      | some fn, some rts => (match fn chk [k1, k2, some (.scalar true), some (.scalar true)] [] with
          | .ok out => outOk rts out | .error _ => true)
      | _, _ => false) = true := by decide +kernel

theorem transpose_sound :
    [true, false].all (fun chk => rtUniverse.all fun r1 => kindUniverse.all fun k1 =>
      !(match k1 with | none => true | some k' => compat r1 k') ||
      match builtin "<builtin>transpose", rtBuiltin "<builtin>transpose" [r1, .int] [] with
      | some fn, some rts => (match fn chk [k1, some (.scalar true)] [] with
          | .ok out => outOk rts out | .error _ => true)
      | _, _ => false) = true := by decide +kernel

/-! ### from the work-list loop to every execution

`SymbolKindFinder.__call__` (`inferAll`: sweeps over a queue popped from its end, statements that
cannot be inferred yet deferred to a buffer, repeated until a sweep changes nothing, then the final
consistency pass) returns a table that is a post-fix-point of the rule of EVERY statement — up to
unifications that `SymbolKindTable.set` printed and ignored (recorded known finding
`C09-incompatible-kinds-first-wins`).  With the per-operator soundness theorem this gives the
property for executions: every assignment of the program, executed in any state the table
describes, leaves a state the table describes. -/

/-- **The loop returns a post-fix-point** (all programs, all registries). -/
theorem inferred_table_is_postfix (reg : Registry) (prog : List (Name × KStmt)) (t : Table)
    (h : inferAll reg prog = .ok t) : ∀ p ∈ prog, StmtFix reg t p.1 p.2 :=
  inferAll_postfix reg prog t h

/-- **Assigned variables have a kind** whenever inference succeeds: the assignee of every
    unsubscripted assignment of the program, and the loop identifiers of that assignment.  (Call
    statements are not covered here; `inferred_table_is_postfix` gives an entry for their assignees.) -/
theorem assigned_variable_has_kind (reg : Registry) (prog : List (Name × KStmt)) (t : Table)
    (h : inferAll reg prog = .ok t) (ph lhs : Name) (rhs flat : Expr) (loops : List Name)
    (hm : (ph, KStmt.assign lhs false rhs flat loops) ∈ prog) :
    (∃ k, t.get ph lhs = some k) ∧ ∀ i ∈ loops, ∃ k, t.get ph i = some k := by
  obtain ⟨hl, ha⟩ := inferAll_postfix reg prog t h _ hm
  obtain ⟨k, _, old, hold, _⟩ := ha rfl
  exact ⟨⟨old, hold⟩, fun i hi => by obtain ⟨o, ho, _⟩ := hl i hi; exact ⟨o, ho⟩⟩

/-- no unification was printed-and-ignored for this assignment (the known finding is exactly the
    failure of this) -/
def NoIgnoredConflict (reg : Registry) (t : Table) (ph lhs : Name) (flat : Expr) : Prop :=
  ∀ k old, infer false reg t ph flat = .ok k → t.get ph lhs = some old → ∀ e, unifyK k old ≠ .error e

/-- **One executed assignment of the program** keeps the returned table a description of the
    store — for every program on which inference succeeds, every unsubscripted assignment of it,
    every state the table describes in which `good` and `NoIgnoredConflict` hold. -/
theorem inferred_table_sound_step (reg : Registry) (prog : List (Name × KStmt)) (t : Table)
    (h : inferAll reg prog = .ok t) (hph : ∀ p ∈ prog, p.1 ≠ "")
    (ph lhs : Name) (rhs flat : Expr) (loops : List Name)
    (hm : (ph, KStmt.assign lhs false rhs flat loops) ∈ prog)
    (F : RtFuns) (ρ : Name → Rt) (hT : TableCompat t ph ρ) (hR : RegSound reg F)
    (hg : good false reg t ph F ρ flat = true) (hnc : NoIgnoredConflict reg t ph lhs flat) :
    TableCompat t ph (fun x => if x = lhs then rtEval F ρ flat else ρ x) := by
  obtain ⟨_, ha⟩ := inferAll_postfix reg prog t h _ hm
  obtain ⟨k, hk, habs⟩ := ha rfl
  have hab := above_of_absorbed habs fun old e ho => hnc k old hk ho e
  exact assign_preserves false reg t ph F ρ hT hR lhs flat k hg hk fun k' hk' =>
    le_some_iff.mp (hab.lookupVar (hph _ hm) (inferAll_wellScoped reg prog hph t h) k' hk')

/-- a trace of executed assignments `(lhs, flattened rhs)` within one phase -/
def execTrace (F : RtFuns) : List (Name × Expr) → (Name → Rt) → (Name → Rt)
  | [], ρ => ρ
  | (lhs, e) :: r, ρ => execTrace F r (fun x => if x = lhs then rtEval F ρ e else ρ x)

/-- nothing raises along the trace (hypothesis `good` at every state the trace goes through) -/
def goodTrace (reg : Registry) (t : Table) (ph : Name) (F : RtFuns) : List (Name × Expr) → (Name → Rt) → Prop
  | [], _ => True
  | (lhs, e) :: r, ρ =>
    good false reg t ph F ρ e = true ∧ goodTrace reg t ph F r (fun x => if x = lhs then rtEval F ρ e else ρ x)

/-- **Every execution**: any sequence of assignments of a phase of the program, of any length, in
    any order, with any repetitions (loops of the step, repeated steps), started in a state the
    table describes, ends in a state the table describes — every stored value is of the inferred
    kind of its variable. -/
theorem inferred_table_sound_run (reg : Registry) (prog : List (Name × KStmt)) (t : Table)
    (h : inferAll reg prog = .ok t) (hph : ∀ p ∈ prog, p.1 ≠ "") (ph : Name) (F : RtFuns) (hR : RegSound reg F) :
    ∀ (trace : List (Name × Expr)) (ρ : Name → Rt),
      (∀ a ∈ trace, ∃ rhs loops, (ph, KStmt.assign a.1 false rhs a.2 loops) ∈ prog) →
      (∀ a ∈ trace, NoIgnoredConflict reg t ph a.1 a.2) →
      goodTrace reg t ph F trace ρ → TableCompat t ph ρ → TableCompat t ph (execTrace F trace ρ) := by
  intro trace
  induction trace with
  | nil => exact fun ρ _ _ _ hT => hT
  | cons a r ih =>
    obtain ⟨lhs, e⟩ := a
    intro ρ hm hnc hg hT
    obtain ⟨rhs, loops, hmem⟩ := hm (lhs, e) List.mem_cons_self
    have h1 := inferred_table_sound_step reg prog t h hph ph lhs rhs e loops hmem F ρ hT hR hg.1
      (hnc (lhs, e) List.mem_cons_self)
    exact ih _ (fun a ha => hm a (List.mem_cons_of_mem _ ha)) (fun a ha => hnc a (List.mem_cons_of_mem _ ha)) hg.2 h1

/-- inference succeeds on a two-statement program whose second statement has to wait for the first
    (queue popped from its end), and the post-fix-point it returns gives `y` the complex kind -/
example :
    let prog : List (Name × KStmt) :=
      [("p", .assign "y" false (.prod [.var "x", .const (.cplx "1j")]) (.prod [.var "x", .const (.cplx "1j")]) []),
       ("p", .assign "x" false (.var "<t>") (.var "<t>") [])]
    (inferAll (mkRegistry []) prog).toOption.map (fun t => (t.get "p" "x", t.get "p" "y")) =
      some (some (.scalar true), some (.scalar false)) := by decide +kernel
example : infer true (mkRegistry []) Table.init "p" (.prod [.var "<t>", .const (.cplx "1j")]) = .ok (.scalar false) := by decide
example : rtEval (fun _ _ _ => []) (fun _ => .real) (.prod [.var "<t>", .const (.cplx "1j")]) = .cplx := by decide

/-- **Invariant under a call statement.** If the table is a post-fix-point for
    `assignees <- f(args, kw)` (the declared result kinds are below the table's kinds of the
    assignees) and there are as many assignees as results (what the final consistency pass of the
    inference checks), executing it keeps the table a description of the store. -/
theorem call_preserves (reg : Registry) (t : Table) (ph : Name) (F : RtFuns) (ρ : Name → Rt)
    (hT : TableCompat t ph ρ) (hR : RegSound reg F) (lhs : List Name) (f : Name) (args : List Expr)
    (kw : List (Name × Expr)) (ks : List Kind)
    (hga : goodA false reg t ph F ρ args = true) (hgk : goodK false reg t ph F ρ kw = true)
    (h : inferCall false reg t ph f args kw = .ok ks) (hlen : ks.length = lhs.length)
    (hpost : ∀ p ∈ zipNK lhs ks, ∀ k', lookupVar t ph p.1 = some k' → p.2 = k' ∨ unifyK p.2 k' = .ok k') :
    TableCompat t ph (execCallRt F ρ lhs f args kw) := by
  obtain ⟨fn, ak, kk, hf, ha, hk, hfn⟩ := inferCall_ok h
  have hO : OutCompat (F f (rtEvalL F ρ args) (rtEvalK F ρ kw)) ks :=
    hR f fn false _ ak _ kk ks hf (inferArgs_sound false reg t ph F ρ hT hR args ak hga ha)
      (inferKw_sound false reg t ph F ρ hT hR kw kk hgk hk) hfn
  rw [execCallRt_eq ((outCompat_length _ _ hO).trans hlen)]
  exact assignZip_compat t ph lhs _ ks ρ hT hO fun p hp k' hk' => le_some_iff.mpr (hpost p hp k' hk')

/-- a registered function has a fixed number of results (`len(func.result_names)` is an attribute of
    the function, not of a call) -/
def FixedArity (reg : Registry) : Prop :=
  ∀ f fn, reg f = some fn → ∀ c1 c2 a1 a2 k1 k2 r1 r2,
    fn c1 a1 k1 = .ok r1 → fn c2 a2 k2 = .ok r2 → r1.length = r2.length


/-- the hypothesis is met by the registries the property talks about: every built-in has a fixed number
    of results (`builtin_arity`: three for `svd`, none for `print`, one otherwise), a function
    registered with fixed result kinds has that many -/
theorem fixedArity_mkRegistry (fixed : List (Name × List Kind)) : FixedArity (mkRegistry fixed) := by
  intro f fn hf c1 c2 a1 a2 k1 k2 r1 r2 h1 h2
  rcases mkRegistry_some hf with hb | ⟨ks, _, rfl⟩
  · rw [builtin_arity f fn hb c1 a1 k1 r1 h1, builtin_arity f fn hb c2 a2 k2 r2 h2]
  · cases h1; cases h2; rfl

/-- no unification was printed-and-ignored for an assignee of this call statement -/
def NoIgnoredCallConflict (reg : Registry) (t : Table) (ph : Name) (lhs : List Name) (f : Name)
    (args : List Expr) (kw : List (Name × Expr)) : Prop :=
  ∀ ks, inferCall false reg t ph f args kw = .ok ks →
    ∀ p ∈ zipNK lhs ks, ∀ old e, t.get ph p.1 = some old → unifyK p.2 old ≠ .error e

/-- **One executed call statement of the program** keeps the returned table a description of the
    store: every assignee receives a value of its inferred kind - in particular never the whole tuple
    of a multi-result function, because the final consistency pass of a successful inference has
    checked that there are as many assignees as results. -/
theorem inferred_table_sound_call_step (reg : Registry) (prog : List (Name × KStmt)) (t : Table)
    (h : inferAll reg prog = .ok t) (hph : ∀ p ∈ prog, p.1 ≠ "") (hfa : FixedArity reg)
    (ph : Name) (lhs : List Name) (f : Name) (args : List Expr) (kw : List (Name × Expr))
    (hm : (ph, KStmt.callAssign lhs f args kw) ∈ prog)
    (F : RtFuns) (ρ : Name → Rt) (hT : TableCompat t ph ρ) (hR : RegSound reg F)
    (hga : goodA false reg t ph F ρ args = true) (hgk : goodK false reg t ph F ρ kw = true)
    (hnc : NoIgnoredCallConflict reg t ph lhs f args kw) :
    TableCompat t ph (execCallRt F ρ lhs f args kw) := by
  obtain ⟨ks, hks, habs⟩ := inferAll_postfix reg prog t h _ hm
  -- the final pass ran and accepted the statement; the function has as many results in either mode
  obtain ⟨ks', hks', hlen'⟩ := finalCheck_count reg t prog (inferAll_ok h).2 ph lhs f args kw hm
  obtain ⟨fn, ak, kk, hf, _, _, hfn⟩ := inferCall_ok hks
  obtain ⟨fn', ak', kk', hf', _, _, hfn'⟩ := inferCall_ok hks'
  cases hf.symm.trans hf'
  refine call_preserves reg t ph F ρ hT hR lhs f args kw ks hga hgk hks
    ((hfa f fn hf _ _ _ _ _ _ _ _ hfn hfn').trans hlen') fun p hp k' hk' => le_some_iff.mp ?_
  exact (above_of_absorbed (habs p hp) fun old e ho => hnc ks hks p hp old e ho).lookupVar (hph _ hm)
    (inferAll_wellScoped reg prog hph t h) k' hk'

/-- an executed statement: an assignment `(lhs, flattened rhs)` or a call statement -/
inductive Step where
  | assign (lhs : Name) (e : Expr)
  | call (lhs : List Name) (f : Name) (args : List Expr) (kw : List (Name × Expr))

def Step.exec (F : RtFuns) (ρ : Name → Rt) : Step → (Name → Rt)
  | .assign lhs e => fun x => if x = lhs then rtEval F ρ e else ρ x
  | .call lhs f args kw => execCallRt F ρ lhs f args kw

/-- the step is a statement of phase `ph` of the program -/
def Step.inProg (prog : List (Name × KStmt)) (ph : Name) : Step → Prop
  | .assign lhs e => ∃ rhs loops, (ph, KStmt.assign lhs false rhs e loops) ∈ prog
  | .call lhs f args kw => (ph, KStmt.callAssign lhs f args kw) ∈ prog

/-- nothing raises while the step's expressions are evaluated -/
def Step.good (reg : Registry) (t : Table) (ph : Name) (F : RtFuns) (ρ : Name → Rt) : Step → Prop
  | .assign _ e => Dagrt.Kinds.good false reg t ph F ρ e = true
  | .call _ _ args kw => goodA false reg t ph F ρ args = true ∧ goodK false reg t ph F ρ kw = true

def Step.noIgnored (reg : Registry) (t : Table) (ph : Name) : Step → Prop
  | .assign lhs e => NoIgnoredConflict reg t ph lhs e
  | .call lhs f args kw => NoIgnoredCallConflict reg t ph lhs f args kw

def execSteps (F : RtFuns) : List Step → (Name → Rt) → (Name → Rt)
  | [], ρ => ρ
  | s :: r, ρ => execSteps F r (s.exec F ρ)

def goodSteps (reg : Registry) (t : Table) (ph : Name) (F : RtFuns) : List Step → (Name → Rt) → Prop
  | [], _ => True
  | s :: r, ρ => s.good reg t ph F ρ ∧ goodSteps reg t ph F r (s.exec F ρ)

/-- **Every execution, call statements included**: any sequence of assignments and call statements
    of a phase of the program, of any length, in any order, with any repetitions, started in a state
    the table describes, ends in a state the table describes. -/
theorem inferred_table_sound_run_stmts (reg : Registry) (prog : List (Name × KStmt)) (t : Table)
    (h : inferAll reg prog = .ok t) (hph : ∀ p ∈ prog, p.1 ≠ "") (hfa : FixedArity reg) (ph : Name)
    (F : RtFuns) (hR : RegSound reg F) :
    ∀ (trace : List Step) (ρ : Name → Rt),
      (∀ s ∈ trace, s.inProg prog ph) → (∀ s ∈ trace, s.noIgnored reg t ph) →
      goodSteps reg t ph F trace ρ → TableCompat t ph ρ → TableCompat t ph (execSteps F trace ρ) := by
  intro trace
  induction trace with
  | nil => exact fun ρ _ _ _ hT => hT
  | cons s r ih =>
    intro ρ hm hnc hg hT
    have h1 : TableCompat t ph (s.exec F ρ) := by
      have hin := hm s List.mem_cons_self
      have hno := hnc s List.mem_cons_self
      cases s with
      | assign lhs e =>
        obtain ⟨rhs, loops, hmem⟩ := hin
        exact inferred_table_sound_step reg prog t h hph ph lhs rhs e loops hmem F ρ hT hR hg.1 hno
      | call lhs f args kw =>
        exact inferred_table_sound_call_step reg prog t h hph hfa ph lhs f args kw hin F ρ hT hR hg.1.1 hg.1.2 hno
    exact ih _ (fun a ha => hm a (List.mem_cons_of_mem _ ha)) (fun a ha => hnc a (List.mem_cons_of_mem _ ha)) hg.2 h1

/-- non-vacuity, and the shape the count check is there for: with as many assignees as results the
    two-result call is accepted and the assignees get the results' kinds; with ONE assignee inference
    fails (the interpreter would store the whole tuple, a value without a kind) -/
example :
    let reg := mkRegistry [("<func>two", [.scalar true, .array false])]
    let ok := [("p", KStmt.callAssign ["s", "w"] "<func>two" [.var "<t>"] [])]
    let short := [("p", KStmt.callAssign ["s"] "<func>two" [.var "<t>"] [])]
    (inferAll reg ok).toOption.map (fun t => (t.get "p" "s", t.get "p" "w")) =
        some (some (.scalar true), some (.array false)) ∧
    (inferAll reg short).toOption.isNone = true ∧
    execCallRt (fun _ _ _ => [.real, .arr true]) (fun _ => .real) ["s"] "<func>two" [.var "<t>"] [] "s" = .none := by
  decide +kernel


end Dagrt.C09
